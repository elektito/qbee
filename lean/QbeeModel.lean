import QbeeModel.Props.C01
import QbeeModel.Props.C02
import QbeeModel.Props.C03
import QbeeModel.Props.C04
import QbeeModel.Props.C05
import QbeeModel.Props.C06
import QbeeModel.Props.C07
import QbeeModel.Props.C08
import QbeeModel.Props.C09
import QbeeModel.Props.C10
import QbeeModel.Props.C11
import QbeeModel.Props.C12
import QbeeModel.Props.C13
import QbeeModel.Props.C14
import QbeeModel.Props.C15
import QbeeModel.Props.C16
import QbeeModel.Props.C17
import QbeeModel.Props.C18
import QbeeModel.Props.C19
import QbeeModel.Props.C20
import QbeeModel.Model.FloatInst
import QbeeModel.Gen.Codes
