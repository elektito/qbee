import QbeeModel.Model.ExprSem
/-
  The two table obligations of Model/ExprSem.lean, evaluated by the kernel.  In a module of their own so that they are
  checked beside `allBinOk` / `allUnOk` (Lemmas/ExprC.lean) and not after them: each takes seconds.
-/
namespace Qbee.ExprSem

theorem allSpecOk_lem : allSpecOk = true := by decide +kernel
theorem decodeTableOk_lem : decodeTableOk = true := by decide +kernel

end Qbee.ExprSem
