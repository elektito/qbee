import QbeeModel.Model.Blocks
/-
  Where the block assembler's diagnostics point: `run` only moves positions between the statements to come, the openers of
  the open blocks and the items collected so far, and reports one of them (`run_error_loc`).
-/
namespace Qbee.Blocks

def itemLoc : Item → Nat
  | .mid _ l | .field l | .other l => l

theorem ifCheck_loc (P : Nat → Prop) {body : List Item} {b : Bool} {e : Err}
    (hb : ∀ it ∈ body, P (itemLoc it)) (h : ifCheck body b = some e) : P e.loc := by
  -- the cases: no item left; ELSE / ELSEIF after ELSE (reported); ELSE / ELSEIF before it; any other item
  fun_induction ifCheck body b with
  | case1 => cases h
  | case2 => cases h; exact hb _ List.mem_cons_self
  | case3 _ _ _ _ _ ih | case4 _ _ _ _ ih => exact ih (fun it hit => hb it (List.mem_cons_of_mem _ hit)) h

theorem typeCheck_loc (P : Nat → Prop) {body : List Item} {e : Err}
    (hb : ∀ it ∈ body, P (itemLoc it)) (h : typeCheck body = some e) : P e.loc := by
  -- the cases: no item left; a field; ELSE / CASE, any other item (both reported)
  fun_induction typeCheck body with
  | case1 => cases h
  | case2 _ _ ih => exact ih (fun it hit => hb it (List.mem_cons_of_mem _ hit)) h
  | case3 | case4 => cases h; exact hb _ List.mem_cons_self

/-- a block's own rule reports an item of its body -/
theorem closeCheck_loc (P : Nat → Prop) {k : Nat} {body : List Item} {e : Err}
    (hb : ∀ it ∈ body, P (itemLoc it)) (h : closeCheck k body = some e) : P e.loc := by
  revert h
  -- the cases: IF; SELECT with an empty body, a clause first, a field first (reported), a statement first (reported); TYPE;
  -- a block without a rule
  fun_cases closeCheck k body
  · exact ifCheck_loc P hb
  · nofun
  · nofun
  · rintro ⟨⟩; exact hb _ List.mem_cons_self
  · rintro ⟨⟩; exact hb _ List.mem_cons_self
  · exact typeCheck_loc P hb
  · nofun

/- The cases of `run.induct`, in the order of the definition: 1 the end, accepted; 2 the end with a block open; 3 an opener;
   a terminator with 4 no block open, 5 another kind of block open, 6 the block's own rule violated, 7 accepted;
   ELSE / CASE 8 accepted, 9 in another kind of block, 10 outside any; a field 11 accepted, 12 in another kind of block,
   13 outside any; 14 a plain statement. -/

/-- the position reported is one of the positions in sight: whatever holds of the position of every statement to come, of
    the opener of every open block and of every item collected so far (in the current body and in the bodies suspended
    around it) holds of the position of the error.  Each step of `run` only moves positions between these four places. -/
theorem run_error_loc (P : Nat → Prop) {toks : List Tok} {st : List Frame} {cur : List Item} {e : Err}
    (htoks : ∀ t ∈ toks, P t.loc) (hst : ∀ f ∈ st, P f.loc ∧ ∀ it ∈ f.outer, P (itemLoc it))
    (hcur : ∀ it ∈ cur, P (itemLoc it)) (h : run toks st cur = .error e) : P e.loc := by
  fun_induction run toks st cur with
  | case1 => cases h
  | case2 f => cases h; exact (hst f List.mem_cons_self).1
  | case4 | case5 | case9 | case10 | case12 | case13 =>
    -- the statement at hand is reported
    cases h; exact htoks _ List.mem_cons_self
  | case6 _ _ _ _ _ _ _ _ hc => cases h; exact closeCheck_loc P hcur hc
  | case3 k loc r st cur ih =>
    -- an opener: its position goes to the new frame, the current body becomes that frame's outer body
    rw [List.forall_mem_cons] at htoks
    exact ih htoks.2 (List.forall_mem_cons.mpr ⟨⟨htoks.1, hcur⟩, hst⟩) (fun _ h => nomatch h) h
  | case7 k loc r f st cur _ _ ih =>
    -- an accepted terminator: the closed block becomes an item, at its opener's position, of its outer body
    rw [List.forall_mem_cons] at htoks hst
    exact ih htoks.2 hst.2 (List.forall_mem_append.mpr ⟨hst.1.2, List.forall_mem_singleton.mpr hst.1.1⟩) h
  | case8 | case11 | case14 =>
    -- ELSE / CASE, a field, a plain statement: appended to the current body
    rename_i ih
    rw [List.forall_mem_cons] at htoks
    exact ih htoks.2 hst (List.forall_mem_append.mpr ⟨hcur, List.forall_mem_singleton.mpr htoks.1⟩) h

end Qbee.Blocks
