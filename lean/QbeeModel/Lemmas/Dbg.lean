import QbeeModel.Model.Dbg
/-
  Reachability along the free run; the exact specification of QvmCpu.run (`run_iter`: it stops at the first state
  after at least one instruction at which a breakpoint matches; `run_user` / `run_temp` / `run_finished`: what each
  outcome says about that state); what each command is on a machine that has not halted, and that it moves along the
  free run; the breakpoint list; `break <line>` as a search in a sorted list.
-/
namespace Qbee.Dbg

variable {σ : Type} {M : Mach σ} {bps : List Bp} {temp : σ → Bool} {fuel n : Nat} {s : σ}

theorem iter_succ (M : Mach σ) (n : Nat) (s : σ) : iter M (n + 1) s = iter M n (M.tick s) := rfl

theorem iter_add (M : Mach σ) (a b : Nat) (s : σ) : iter M (a + b) s = iter M b (iter M a s) := by
  induction a generalizing s with
  | zero => simp [iter]
  | succ a ih => rw [Nat.add_right_comm, iter_succ, ih, iter_succ]

theorem Reach.refl (M : Mach σ) (s : σ) : Reach M s s := ⟨0, rfl, by omega⟩

theorem Reach.tick (M : Mach σ) (s : σ) (h : M.halted s = false) : Reach M s (M.tick s) :=
  ⟨1, rfl, fun _ hj => Nat.lt_one_iff.1 hj ▸ h⟩

theorem Reach.trans {s t u : σ} (h1 : Reach M s t) (h2 : Reach M t u) : Reach M s u := by
  obtain ⟨a, rfl, hal⟩ := h1
  obtain ⟨b, rfl, hbl⟩ := h2
  refine ⟨a + b, (iter_add M a b s).symm, fun j hj => ?_⟩
  by_cases hja : j < a
  · exact hal j hja
  · have := hbl (j - a) (by omega)
    rwa [← iter_add, Nat.add_sub_cancel' (Nat.le_of_not_lt hja)] at this

theorem left_false_of_or {a b : Bool} (h : ¬(a || b) = true) : a = false := by simp_all

/-- `run` executes k instructions of the free run, none of them on a halted machine; at no state strictly in between
    did a user breakpoint match or the temporary predicate hold; only `finished` and `fuel` are reported without an
    instruction having been executed -/
theorem run_iter (M : Mach σ) (bps : List Bp) (temp : σ → Bool) (n : Nat) (s : σ) :
    ∃ k, (run M bps temp n s).1 = iter M k s ∧
      (∀ j, j < k → M.halted (iter M j s) = false) ∧
      (∀ j, 0 < j → j < k → firstHit bps (M.pc (iter M j s)) = none ∧ temp (iter M j s) = false) ∧
      ((run M bps temp n s).2 = .finished ∨ (run M bps temp n s).2 = .fuel ∨ 1 ≤ k) := by
  have one {s} (h : ¬(M.halted s || decide (M.pc s ≥ M.codeLen)) = true) : ∀ j, j < 1 → M.halted (iter M j s) = false :=
    fun _ hj => Nat.lt_one_iff.1 hj ▸ left_false_of_or h
  -- the cases of `run`, in its order: no fuel; stopped before a tick; halted by the tick; user breakpoint; temporary
  -- predicate; none of these (the only recursive one)
  fun_induction run M bps temp n s with
  | case1 s => exact ⟨0, rfl, by omega, by omega, .inr (.inl rfl)⟩
  | case2 n s h => exact ⟨0, rfl, by omega, by omega, .inl rfl⟩
  | case3 n s h s' hh => exact ⟨1, rfl, one h, by omega, .inl rfl⟩
  | case4 n s h s' hh i hf => exact ⟨1, rfl, one h, by omega, .inr (.inr (Nat.le_refl 1))⟩
  | case5 n s h s' hh hf ht => exact ⟨1, rfl, one h, by omega, .inr (.inr (Nat.le_refl 1))⟩
  | case6 n s h s' hh hf ht ih =>
    obtain ⟨k, hk, hall, hmid, _⟩ := ih
    refine ⟨k + 1, hk, Nat.forall_lt_succ_left.2 ⟨left_false_of_or h, hall⟩, fun j h0 hj => ?_,
      .inr (.inr (Nat.le_add_left 1 k))⟩
    obtain _ | _ | j := j
    · cases h0
    · exact ⟨hf, eq_false_of_ne_true ht⟩
    · exact hmid (j + 1) (Nat.succ_pos j) (Nat.lt_of_succ_lt_succ hj)

theorem run_user {i : Nat} (h : (run M bps temp n s).2 = .user i) :
    firstHit bps (M.pc (run M bps temp n s).1) = some i ∧ M.halted (run M bps temp n s).1 = false := by
  -- here and in the next two, the cases of `run` as numbered in `run_iter`
  fun_induction run M bps temp n s with
  | case4 n s _ s' hh j hf => cases h; exact ⟨hf, eq_false_of_ne_true hh⟩
  | case6 _ _ _ _ _ _ _ ih => exact ih h
  | _ => cases h

theorem run_temp (h : (run M bps temp n s).2 = .temp) :
    temp (run M bps temp n s).1 = true ∧ firstHit bps (M.pc (run M bps temp n s).1) = none ∧
      M.halted (run M bps temp n s).1 = false := by
  fun_induction run M bps temp n s with
  | case5 n s _ s' hh hf ht => exact ⟨ht, hf, eq_false_of_ne_true hh⟩
  | case6 _ _ _ _ _ _ _ ih => exact ih h
  | _ => cases h

theorem run_finished (h : (run M bps temp n s).2 = .finished) :
    M.halted (run M bps temp n s).1 = true ∨ M.pc (run M bps temp n s).1 ≥ M.codeLen := by
  fun_induction run M bps temp n s with
  | case2 n s hs => simpa using hs
  | case3 n s _ s' hh => exact .inl hh
  | case6 _ _ _ _ _ _ _ ih => exact ih h
  | _ => cases h

theorem run_reach (M : Mach σ) (bps : List Bp) (temp : σ → Bool) (n : Nat) (s : σ) :
    Reach M s (run M bps temp n s).1 :=
  let ⟨k, hk, hall, _⟩ := run_iter M bps temp n s
  ⟨k, hk, hall⟩

theorem step_eq_run (bps : List Bp) (fuel : Nat) (hs : M.halted s = false) :
    step M bps fuel s = run M bps (differentStmt M s) fuel s := by simp [step, hs]

theorem differentStmt_true (M : Mach σ) (s t : σ) :
    differentStmt M s t = true ↔ ∃ x, M.stmt (M.pc t) = some x ∧ M.stmt (M.pc s) ≠ some x := by
  unfold differentStmt
  split <;> simp [*]

theorem cont_eq_run (bps : List Bp) (fuel : Nat) (hs : M.halted s = false) :
    cont M bps fuel s = run M bps (fun _ => false) fuel s := by simp [cont, hs]

theorem nexti_call (bps : List Bp) (fuel : Nat) {sz : Nat} (hc : M.callSize s = some sz) :
    nexti M bps fuel s = run M bps (fun t => M.pc t == M.pc s + sz && M.frame t == M.frame s) fuel s := by
  unfold nexti; rw [hc]

theorem nexti_single (bps : List Bp) (fuel : Nat) (hc : M.callSize s = none) :
    nexti M bps fuel s = (M.tick s, .temp) := by
  unfold nexti; rw [hc]

theorem nexti_reach {s' : σ} {w : Why} (h : M.halted s = false) (hres : nexti M bps fuel s = (s', w)) : Reach M s s' := by
  rw [show s' = (nexti M bps fuel s).1 by rw [hres]]
  unfold nexti
  split
  · exact run_reach ..
  · exact .tick M s h

/-- the guard every running command starts with: a halted machine is left where it is -/
theorem reach_unless_halted {r : σ × Why} (h : M.halted s = false → Reach M s r.1) :
    Reach M s (if M.halted s then (s, .finished) else r).1 := by
  split
  · exact .refl M s
  next hh => exact h (eq_false_of_ne_true hh)

theorem stepi_reach (M : Mach σ) (s : σ) : Reach M s (stepi M s) := by
  unfold stepi
  split
  · exact .refl M s
  next h => exact .tick M s (eq_false_of_ne_true h)

theorem nextLoop_reach (M : Mach σ) (bps : List Bp) (fuel : Nat) (s0 : σ) (n : Nat) (s : σ) :
    Reach M s (nextLoop M bps fuel s0 n s).1 := by
  -- the cases of `nextLoop`: no fuel; halted; `nexti` ends with user / fuel / finished / temp in another statement
  -- (each returned as it is); temp in the same statement (the only recursive one)
  fun_induction nextLoop M bps fuel s0 n s with
  | case1 s => exact .refl M s
  | case2 n s hh => exact .refl M s
  | case3 n s hh s' i hres => exact nexti_reach (eq_false_of_ne_true hh) hres
  | case4 n s hh s' hres => exact nexti_reach (eq_false_of_ne_true hh) hres
  | case5 n s hh s' hres => exact nexti_reach (eq_false_of_ne_true hh) hres
  | case6 n s hh s' hres hd => exact nexti_reach (eq_false_of_ne_true hh) hres
  | case7 n s hh s' hres hd ih => exact .trans (nexti_reach (eq_false_of_ne_true hh) hres) ih

theorem nexti_call_temp {sz : Nat} {s' : σ} (hc : M.callSize s = some sz) (h : nexti M bps fuel s = (s', .temp)) :
    M.frame s' = M.frame s ∧ M.pc s' = M.pc s + sz := by
  rw [nexti_call bps fuel hc] at h
  have := (run_temp (congrArg Prod.snd h)).1
  simp only [h, Bool.and_eq_true, beq_iff_eq] at this
  exact this.symm

/-- the moves NEXT is made of: a single instruction that is not a call, or a whole call returning to the calling frame -/
inductive NextPath (M : Mach σ) : σ → σ → Prop where
  | refl (s : σ) : NextPath M s s
  | single (s t : σ) (h : M.callSize s = none) (hn : M.halted s = false) (r : NextPath M (M.tick s) t) : NextPath M s t
  | call (s u t : σ) (sz : Nat) (h : M.callSize s = some sz) (hf : M.frame u = M.frame s) (hp : M.pc u = M.pc s + sz)
      (hr : Reach M s u) (r : NextPath M u t) : NextPath M s t

theorem nexti_move {s' t : σ} (hh : M.halted s = false) (hres : nexti M bps fuel s = (s', .temp))
    (tail : NextPath M s' t) : NextPath M s t := by
  cases hcs : M.callSize s with
  | none =>
    cases (nexti_single bps fuel hcs).symm.trans hres
    exact .single s t hcs hh tail
  | some sz =>
    have ⟨hf, hpc⟩ := nexti_call_temp hcs hres
    exact .call s s' t sz hcs hf hpc (nexti_reach hh hres) tail

theorem nextLoop_path {s0 : σ} (h : (nextLoop M bps fuel s0 n s).2 = .temp) :
    NextPath M s (nextLoop M bps fuel s0 n s).1 ∧ differentStmt M s0 (nextLoop M bps fuel s0 n s).1 = true := by
  -- of the cases of `nextLoop` only the last two end with `temp`: in another statement, and the recursive one
  fun_induction nextLoop M bps fuel s0 n s with
  | case6 n s hh s' hres hd => exact ⟨nexti_move (eq_false_of_ne_true hh) hres (.refl s'), hd⟩
  | case7 n s hh s' hres _ ih => exact ⟨nexti_move (eq_false_of_ne_true hh) hres (ih h).1, (ih h).2⟩
  | _ => cases h

theorem exec_reach (M : Mach σ) (fuel : Nat) (d : DS σ) (c : Cmd) : Reach M d.s (exec M fuel d c).s := by
  cases c with
  | step => exact reach_unless_halted fun _ => run_reach ..
  | next => exact nextLoop_reach ..
  | stepi => exact stepi_reach M d.s
  | nexti => exact reach_unless_halted fun h => nexti_reach h rfl
  | cont => exact reach_unless_halted fun _ => run_reach ..
  | brk b => cases b <;> exact .refl M _
  | del b => cases b <;> exact .refl M _

theorem addBp_nodup (b : Bp) (h : bps.Nodup) : (addBp bps b).Nodup := by
  unfold addBp
  split
  · exact h
  next hb => exact List.nodup_append.2 ⟨h, List.pairwise_singleton _ b, fun a ha c hc hac =>
      hb (List.mem_singleton.1 hc ▸ hac ▸ ha)⟩

theorem delBp_nodup (b : Bp) (h : bps.Nodup) : (delBp bps b).Nodup := h.erase b

theorem not_mem_delBp (b : Bp) (h : bps.Nodup) : b ∉ delBp bps b := h.not_mem_erase

theorem exec_nodup (M : Mach σ) (fuel : Nat) (d : DS σ) (c : Cmd) (h : d.bps.Nodup) : (exec M fuel d c).bps.Nodup := by
  cases c with
  | brk b => cases b with
    | none => exact h
    | some b => exact addBp_nodup b h
  | del b => cases b with
    | none => exact h
    | some b => exact delBp_nodup b h
  | _ => exact h

/-- in a list sorted by `R`, `find?` returns the `R`-least element that satisfies the predicate -/
theorem find?_least {α : Type} {R : α → α → Prop} {p : α → Bool} {l : List α} {r : α}
    (hs : l.Pairwise R) (hf : l.find? p = some r) : ∀ x ∈ l, p x = true → x = r ∨ R r x := by
  obtain ⟨-, front, back, rfl, hfront⟩ := List.find?_eq_some_iff_append.1 hf
  intro x hx hpx
  rcases List.mem_append.1 hx with hx | hx
  · have := hfront x hx
    simp [hpx] at this
  · exact (List.mem_cons.1 hx).imp_right (List.rel_of_pairwise_cons (List.pairwise_append.1 hs).2.1)

/-- the first match in the list sorted by a key is a match of least key -/
theorem find?_mergeSort_least {α : Type} (key : α → Nat) {p : α → Bool} {l : List α} {r : α}
    (hf : (l.mergeSort fun a b => decide (key a ≤ key b)).find? p = some r) :
    r ∈ l ∧ p r = true ∧ ∀ x ∈ l, p x = true → key r ≤ key x := by
  have hperm := List.mergeSort_perm l fun a b => decide (key a ≤ key b)
  have hsorted := List.pairwise_mergeSort (le := fun a b => decide (key a ≤ key b))
    (fun x y z hxy hyz => decide_eq_true (Nat.le_trans (of_decide_eq_true hxy) (of_decide_eq_true hyz)))
    (fun x y => by simpa using Nat.le_total (key x) (key y)) l
  refine ⟨hperm.mem_iff.1 (List.mem_of_find?_eq_some hf), List.find?_some hf, fun x hx hpx => ?_⟩
  rcases find?_least hsorted hf x (hperm.mem_iff.2 hx) hpx with rfl | hle
  · exact Nat.le_refl _
  · exact of_decide_eq_true hle

end Qbee.Dbg
