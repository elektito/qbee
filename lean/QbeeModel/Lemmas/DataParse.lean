import QbeeModel.Model.Data
namespace Qbee.Data
open Qbee.NumFmt

/-- what an unquoted field denotes: blank -> Empty, else the text trimmed -/
def fieldItem (f : Str) : DItem :=
  if f.all isBT then .empty else .str (strip (f.dropWhile isBT))

theorem fieldItem_cons (c : Char) (f : Str) :
    fieldItem (c :: f) = if isBT c then fieldItem f else .str (strip (c :: f)) := by
  by_cases h : isBT c <;> simp [fieldItem, h]

theorem pd_no_quotes_aux (s : Str) (h : '"' ∉ s) :
    pd .before s = some (fieldItem (split1 s).1 :: (split1 s).2.map fieldItem) ∧
    ∀ it, pd (.unq it) s = some (.str (strip (it ++ (split1 s).1)) :: (split1 s).2.map fieldItem) := by
  -- the branches of `split1`: the end of the text, a comma, any other character
  fun_induction split1 s with
  | case1 => exact ⟨rfl, fun it => by rw [pd, List.append_nil]; rfl⟩
  | case2 r ih =>
    obtain ⟨ihb, -⟩ := ih (List.not_mem_of_not_mem_cons h)
    exact ⟨by rw [pd, ihb]; rfl, fun it => by rw [pd, ihb]; simp⟩
  | case3 c r hc ih =>
    obtain ⟨ihb, ihu⟩ := ih (List.not_mem_of_not_mem_cons h)
    simp only [pd, hc, Ne.symm (List.ne_of_not_mem_cons h), if_false, ihb, ihu, fieldItem_cons]
    exact ⟨by split <;> rfl, fun it => by simp⟩

/-- canonical rendering: string items quoted, Empty items as nothing, joined by commas -/
def render : List DItem → Str
  | [] => []
  | [.empty] => []
  | [.str s] => '"' :: s ++ ['"']
  | .empty :: r => ',' :: render r
  | .str s :: r => '"' :: s ++ '"' :: ',' :: render r

theorem pd_quo (s : Str) (h : '"' ∉ s) (acc r : Str) :
    pd (.quo acc) (s ++ '"' :: r) = (pd .after r).map (.str (acc ++ s) :: ·) := by
  induction s generalizing acc with
  | nil => simp [pd]
  | cons c t ih =>
    rw [List.mem_cons, not_or] at h
    simp [pd, Ne.symm h.1, ih h.2]

end Qbee.Data
