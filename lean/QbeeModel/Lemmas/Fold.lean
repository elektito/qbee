import QbeeModel.Model.Fold
import QbeeModel.Lemmas.Arith
namespace Qbee.Fold
open Qbee.Gen Qbee.Arith

theorem wrap_eq_iff {t : Ty} (ht : t = .i ∨ t = .l) (x : Int) : wrap t x = x ↔ inRange t x = true := by
  rcases ht with rfl | rfl <;> simp only [wrap, inRange, Bool.and_eq_true, decide_eq_true_eq] <;> omega

theorem limit_eq {t : Ty} (ht : t = .i ∨ t = .l) (x : Int) :
    limit t x = if inRange t x then .lit t x else .unfolded := by
  simp only [limit, wrap_eq_iff ht]

/-- the folder's `limit` and the machine's `mk` are the same range test -/
theorem mk_eq_limit {F} (ops : FOps F) {t : Ty} (ht : t = .i ∨ t = .l) (x : Int) :
    mk ops t (.int x) = match limit t x with
      | .lit t' n => .ok (.int t' n)
      | .unfolded => .trap "INVALID_CELL_VALUE"
      | .host c => .host c := by
  rw [mk_int ops ht, limit_eq ht]
  split <;> rfl

def IntOp (op : BinOp) : Prop :=
  op = .add ∨ op = .sub ∨ op = .mul ∨ op = .idiv ∨ op = .mod ∨ op = .and ∨ op = .or ∨ op = .xor ∨ op = .eqv ∨ op = .imp

/-- on integral operands the machine computes what the folder computes: the same integer function, then the same
    range test; the folder gives up exactly where the machine traps -/
theorem binop_eq_foldInt {F} (ops : FOps F) {op : BinOp} (hop : IntOp op) {t : Ty} (ht : t = .i ∨ t = .l) (a b : Int) :
    binop ops op (.int t a) (.int t b) = match foldInt op t a b with
      | .lit t' n => .ok (.int t' n)
      | .unfolded => .trap (if (op = .idiv ∨ op = .mod) ∧ b = 0 then "DIVISION_BY_ZERO" else "INVALID_CELL_VALUE")
      | .host c => .host c := by
  rw [binop_int ops ht]
  unfold foldInt
  rcases hop with rfl | rfl | rfl | rfl | rfl | rfl | rfl | rfl | rfl | rfl <;>
    by_cases hb : b = 0 <;> simp [mk_eq_limit ops ht, hb]

/-- unary minus and NOT likewise -/
theorem unop_eq_foldUnInt {F} (ops : FOps F) (neg : Bool) {t : Ty} (ht : t = .i ∨ t = .l) (a : Int) :
    unop ops (if neg then .neg else .not) (.int t a) = match foldUnInt neg t a with
      | .lit t' n => .ok (.int t' n)
      | .unfolded => .trap "INVALID_CELL_VALUE"
      | .host c => .host c := by
  have : foldUnInt neg t a = limit t (if neg then -a else inot a) := by rw [limit_eq ht]; rfl
  rw [this]
  cases neg <;> exact mk_eq_limit ops ht _

end Qbee.Fold
