import QbeeModel.Model.Asm
namespace Qbee.Asm

@[simp] theorem erase_ins (op : Nat) (a : List Arg) (r : List SI) : erase (.ins op a :: r) = .ins op a :: erase r := rfl
@[simp] theorem erase_label (n : String) (r : List SI) : erase (.label n :: r) = .label n :: erase r := rfl
@[simp] theorem erase_marker (k : Nat) (r : List SI) : erase (.marker k :: r) = erase r := rfl
@[simp] theorem erase_nil : erase [] = [] := rfl

/- In the next three, both sides compute on the head of the stream (a marker has size 0 and emits nothing),
   so each case is the induction hypothesis, under the instruction's own contribution if it has one. -/

theorem labelTable_erase : ∀ (s : List SI) (off : Nat), labelTable (erase s) off = labelTable s off
  | [], _ => rfl
  | .label n :: r, off => congrArg ((n, off) :: ·) (labelTable_erase r off)
  | .marker _ :: r, off => labelTable_erase r off
  | .ins _ _ :: r, _ => labelTable_erase r _

theorem emit_erase (tbl : List (String × Nat)) : ∀ (s : List SI), emit tbl (erase s) = emit tbl s
  | [] => rfl
  | .label _ :: r => emit_erase tbl r
  | .marker _ :: r => emit_erase tbl r
  | .ins op a :: r => by rw [erase_ins, emit, emit, emit_erase tbl r]

theorem starts_erase : ∀ (s : List SI) (off : Nat), starts (erase s) off = starts s off
  | [], _ => rfl
  | .label _ :: r, off => starts_erase r off
  | .marker _ :: r, off => starts_erase r off
  | .ins _ _ :: r, off => congrArg (off :: ·) (starts_erase r _)

@[simp] theorem totalSize_label (n : String) (r : List SI) : totalSize (.label n :: r) = totalSize r := Nat.zero_add _
@[simp] theorem totalSize_marker (k : Nat) (r : List SI) : totalSize (.marker k :: r) = totalSize r := Nat.zero_add _

theorem boundary_here : ∀ (s : List SI) (off : Nat), off ∈ starts s off ∨ off = off + totalSize s
  | [], _ => .inr rfl
  | .ins _ _ :: _, _ => .inl List.mem_cons_self
  | .label n :: r, off => totalSize_label n r ▸ boundary_here r off
  | .marker k :: r, off => totalSize_marker k r ▸ boundary_here r off

end Qbee.Asm

/-! ### which streams assemble (C06): the labels a stream defines and the labels its operands name -/
namespace Qbee.C06
open Qbee.Asm

def labelNames : List SI → List String
  | [] => []
  | .label n :: r => n :: labelNames r
  | _ :: r => labelNames r

def argLabels : List Arg → List String
  | [] => []
  | .lbl n :: r => n :: argLabels r
  | _ :: r => argLabels r

def labelOperands : List SI → List String
  | [] => []
  | .ins _ args :: r => argLabels args ++ labelOperands r
  | _ :: r => labelOperands r

theorem labelTable_names : ∀ (s : List SI) (off : Nat), (labelTable s off).map Prod.fst = labelNames s
  | [], _ => rfl
  | .label n :: r, off => congrArg (n :: ·) (labelTable_names r off)
  | .ins _ _ :: r, _ => labelTable_names r _
  | .marker _ :: r, _ => labelTable_names r _

theorem lookupLast_isSome (tbl : List (String × Nat)) (n : String) :
    (lookupLast tbl n).isSome ↔ n ∈ tbl.map Prod.fst := by
  induction tbl with
  | nil => simp [lookupLast]
  | cons kv r ih =>
    rw [lookupLast, List.map_cons, List.mem_cons, ← ih]
    cases lookupLast r n with
    | some _ => simp
    | none => simp [eq_comm (a := n)]

/-- the shape of a step of `emitArgs` and of `emit`: it succeeds when both its parts do -/
theorem isSome_bind_bind {α β γ : Type} (a : Option α) (b : Option β) (f : α → β → γ) :
    (do let x ← a; let y ← b; pure (f x y)).isSome = (a.isSome && b.isSome) := by
  cases a <;> cases b <;> rfl

theorem emitArgs_isSome (tbl : List (String × Nat)) (args : List Arg) :
    (emitArgs tbl args).isSome = (argLabels args).all fun n => (lookupLast tbl n).isSome := by
  induction args with
  | nil => rfl
  | cons a r ih =>
    rw [emitArgs, isSome_bind_bind, ih]
    cases a with
    | bytes _ => rfl
    | lbl n => simp [emitArg, argLabels]

theorem emit_isSome (tbl : List (String × Nat)) (s : List SI) :
    (emit tbl s).isSome = (labelOperands s).all fun n => (lookupLast tbl n).isSome := by
  induction s with
  | nil => rfl
  | cons i r ih =>
    cases i with
    | ins op args =>
      rw [emit, isSome_bind_bind _ _ fun a rest => op :: a ++ rest, emitArgs_isSome, ih, labelOperands, List.all_append]
    | label _ => exact ih
    | marker _ => exact ih

theorem assemble_isSome (s : List SI) : (assemble s).isSome ↔ ∀ n ∈ labelOperands s, n ∈ labelNames s := by
  simp [assemble, emit_isSome, lookupLast_isSome, labelTable_names]

end Qbee.C06
