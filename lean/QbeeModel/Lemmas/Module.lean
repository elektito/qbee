import QbeeModel.Model.Module
import QbeeModel.Lemmas.Bytes
namespace Qbee.Module
open Qbee.Bytes

theorem takeN_append (a rest : List Nat) : takeN a.length (a ++ rest) = some (a, rest) := by
  simp [takeN]

theorem takeN_be (k n : Nat) (rest : List Nat) : takeN k (be k n ++ rest) = some (be k n, rest) := by
  have := takeN_append (be k n) rest
  rwa [be_length] at this

theorem serLiterals_length_ge (ls : List (List Nat)) : ls.length ≤ (serLiterals ls).length := by
  induction ls with
  | nil => simp [serLiterals]
  | cons l r ih => simp [serLiterals, be_length]; omega

theorem parseLiterals_cons (l : List Nat) (hl : l.length < 65536) (f : Nat) (rest : List Nat) :
    parseLiterals (f + 1) (be 2 l.length ++ l ++ rest) = (parseLiterals f rest).map (l :: ·) := by
  rw [parseLiterals.eq_3 _ _ (by simp [be])]
  simp only [List.append_assoc, takeN_be, val_be 2 _ hl, takeN_append]

/-- one unit of fuel per literal is enough -/
theorem parseLiterals_ser (ls : List (List Nat)) (f : Nat) (h : WFLiterals ls) (hf : ls.length ≤ f) :
    parseLiterals f (serLiterals ls) = some ls := by
  induction ls generalizing f with
  | nil => cases f <;> rfl
  | cons l r ih =>
    obtain _ | f := f
    · cases hf
    have ⟨⟨hl, _⟩, hr⟩ := List.forall_mem_cons.1 h
    rw [serLiterals, parseLiterals_cons l hl, ih f hr (Nat.le_of_succ_le_succ hf)]
    rfl

theorem parseItems_serItem (i : Item) (h : WFItem i) (n : Nat) (rest : List Nat) :
    parseItems (n + 1) (serItem i ++ rest) = (parseItems n rest).map fun (its, r) => (i :: its, r) := by
  cases i with
  | none => simp [parseItems, serItem, takeN_be, toSigned_val_be (k := 2) (i := -1) ⟨by decide, by decide⟩]
  | some s =>
    have hin : InS 2 s.length := ⟨by omega, by have := h.1; omega⟩
    have hpos : ¬ (s.length : Int) < 0 := by omega
    simp [parseItems, serItem, takeN_be, toSigned_val_be hin, hpos, takeN_append]

theorem parseItems_ser (p : List Item) (rest : List Nat) (h : ∀ i ∈ p, WFItem i) :
    parseItems p.length (serItems p ++ rest) = some (p, rest) := by
  induction p with
  | nil => rfl
  | cons i r ih =>
    have ⟨hi, hr⟩ := List.forall_mem_cons.1 h
    rw [serItems, List.append_assoc, List.length_cons, parseItems_serItem i hi, ih hr]
    rfl

theorem parseParts_ser (d : List (List Item)) (rest : List Nat)
    (h : ∀ p ∈ d, p.length < 32768 ∧ ∀ i ∈ p, WFItem i) :
    parseParts d.length (serParts d ++ rest) = some (d, rest) := by
  induction d with
  | nil => rfl
  | cons p r ih =>
    have ⟨⟨hp, hi⟩, hr⟩ := List.forall_mem_cons.1 h
    simp only [List.length_cons, parseParts, serParts, serPart, List.append_assoc, takeN_be, ofSigned_natCast,
      val_be 2 _ (by omega : p.length < 256 ^ 2), parseItems_ser p _ hi, ih hr]
    rfl

end Qbee.Module
