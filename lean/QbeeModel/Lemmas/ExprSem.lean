import QbeeModel.Model.ExprSem
import QbeeModel.Lemmas.ExprC
import QbeeModel.Lemmas.SpecOk
namespace Qbee.ExprSem
open Qbee.Gen Qbee.ExprC Qbee.Arith

@[simp] theorem bind_ok {α β} (a : α) (f : α → Res β) : Res.bind (.ok a) f = f a := rfl
@[simp] theorem bind_trap {α β} (c : String) (f : α → Res β) : Res.bind (.trap c : Res α) f = .trap c := rfl
@[simp] theorem bind_host {α β} (c : String) (f : α → Res β) : Res.bind (.host c : Res α) f = .host c := rfl

theorem bind_assoc {α β γ} (r : Res α) (f : α → Res β) (g : β → Res γ) :
    Res.bind (Res.bind r f) g = Res.bind r (fun a => Res.bind (f a) g) := by
  cases r <;> rfl

/-- continuations need only agree where the first computation succeeds -/
theorem bind_congr {α β} {r : Res α} {f g : α → Res β} (h : ∀ a, r = .ok a → f a = g a) :
    Res.bind r f = Res.bind r g := by
  cases r with
  | ok a => exact h a rfl
  | trap c => rfl
  | host c => rfl

theorem applyAll_append {F} (ops : FOps F) (os₁ os₂ : List Op3) (st : List (Cell F)) :
    applyAll ops (os₁ ++ os₂) st = Res.bind (applyAll ops os₁ st) (applyAll ops os₂) := by
  induction os₁ generalizing st with
  | nil => rfl
  | cons o os ih =>
    show Res.bind _ _ = Res.bind (Res.bind _ _) _
    rw [bind_assoc]
    exact congrArg _ (funext ih)

theorem applyAll_bin {F} (ops : FOps F) (b : BinOp) (os : List Op3) (x y : Cell F) (st : List (Cell F)) :
    applyAll ops (.bin b :: os) (y :: x :: st) = Res.bind (binop ops b x y) fun c => applyAll ops os (c :: st) :=
  bind_assoc ..

theorem applyAll_conv {F} (ops : FOps F) (s d : Ty) (os : List Op3) (x : Cell F) (st : List (Cell F)) :
    applyAll ops (.conv s d :: os) (x :: st) = Res.bind (conv ops s d x) fun c => applyAll ops os (c :: st) :=
  bind_assoc ..

theorem applyAll_un {F} (ops : FOps F) (u : UnOp) (os : List Op3) (x : Cell F) (st : List (Cell F)) :
    applyAll ops (.un u :: os) (x :: st) = Res.bind (unop ops u x) fun c => applyAll ops os (c :: st) :=
  bind_assoc ..

/-- stack effect bookkeeping: does a stack of n cells suffice for the sequence? -/
def enough : List Op3 → Nat → Bool
  | [], _ => true
  | o :: r, n => decide (arity o ≤ n) && enough r (n + 1 - arity o)

/-- an instruction leaves `s.length + 1 - arity` cells, and if it finds its operands in `s` it does not look beneath them -/
theorem applyOp3_frame {F} (ops : FOps F) (o : Op3) (s st : List (Cell F)) :
    (∀ s', applyOp3 ops o s = .ok s' → s'.length = s.length + 1 - arity o) ∧
    (arity o ≤ s.length → applyOp3 ops o (s ++ st) = Res.bind (applyOp3 ops o s) (fun s' => .ok (s' ++ st))) := by
  have lift : ∀ (c : Res (Cell F)) (r : List (Cell F)),
      (∀ s', (Res.bind c fun c => .ok (c :: r)) = .ok s' → s'.length = r.length + 1) ∧
      (Res.bind c fun c => .ok (c :: (r ++ st))) = Res.bind (Res.bind c fun c => .ok (c :: r)) (fun s' => .ok (s' ++ st)) := by
    intro c r
    cases c with
    | ok c => exact ⟨fun s' h => by cases h; rfl, rfl⟩
    | trap c => exact ⟨nofun, rfl⟩
    | host c => exact ⟨nofun, rfl⟩
  match o, s with
  | .conv a b, x :: r => exact (lift (conv ops a b x) r).imp_right fun h _ => h
  | .un u, x :: r => exact (lift (unop ops u x) r).imp_right fun h _ => h
  | .bin b, y :: x :: r => exact (lift (binop ops b x y) r).imp_right fun h _ => h
  | .conv _ _, [] | .un _, [] | .bin _, [] | .bin _, [_] => exact ⟨nofun, fun h => absurd h (by simp [arity])⟩

theorem applyAll_frame {F} (ops : FOps F) : ∀ (os : List Op3) (s st : List (Cell F)),
    (∀ s', applyAll ops os s = .ok s' → s'.length = outLen os s.length) ∧
    (enough os s.length = true → applyAll ops os (s ++ st) = Res.bind (applyAll ops os s) (fun s' => .ok (s' ++ st)))
  | [], s, st => ⟨fun s' h => by cases h; rfl, fun _ => rfl⟩
  | o :: r, s, st => by
    obtain ⟨hl, hf⟩ := applyOp3_frame ops o s st
    simp only [enough, Bool.and_eq_true, decide_eq_true_eq, applyAll, outLen]
    cases hs : applyOp3 ops o s with
    | ok s1 =>
      obtain ⟨ihl, ihf⟩ := applyAll_frame ops r s1 st
      rw [hl s1 hs] at ihl ihf
      exact ⟨ihl, fun h => by rw [hf h.1, hs]; exact ihf h.2⟩
    | trap c => exact ⟨nofun, fun h => by rw [hf h.1, hs]; rfl⟩
    | host c => exact ⟨nofun, fun h => by rw [hf h.1, hs]; rfl⟩

/-- a sequence that leaves one cell -/
theorem applyAll_one {F} (ops : FOps F) {os : List Op3} {s s' : List (Cell F)} (hout : outLen os s.length = 1)
    (hs : applyAll ops os s = .ok s') : ∃ v, s' = [v] :=
  List.length_eq_one_iff.mp (((applyAll_frame ops os s []).1 s' hs).trans hout)

/-- running opcodes that decode to `os` is applying `os` -/
theorem runC_ops {F} (ops : FOps F) : ∀ (cs : List Nat) (os : List Op3), decodeAll cs = some os →
    ∀ (rest : List (CI F)) (st : List (Cell F)),
    runC ops (cs.map CI.op ++ rest) st = Res.bind (applyAll ops os st) (runC ops rest)
  | [], os, h, rest, st => by cases h; rfl
  | c :: r, os, h, rest, st => by
    simp only [decodeAll, List.mapM_cons, Option.bind_eq_bind, Option.bind_eq_some_iff, Option.pure_def,
      Option.some.injEq] at h
    obtain ⟨o, hd, os', hr, rfl⟩ := h
    simp only [List.map_cons, List.cons_append, runC, hd, applyAll, bind_assoc]
    exact bind_congr fun s1 _ => runC_ops ops r os' hr rest s1

/-- ... and on top of a stack `st` it is applying `os` to the cells above it -/
theorem runC_decoded {F} (ops : FOps F) {cs : List Nat} {os : List Op3} (h : decodeAll cs = some os)
    (s st : List (Cell F)) (rest : List (CI F)) (he : enough os s.length = true) :
    runC ops (cs.map CI.op ++ rest) (s ++ st) = Res.bind (applyAll ops os s) (fun s' => runC ops rest (s' ++ st)) := by
  rw [runC_ops ops cs os h, (applyAll_frame ops os s st).2 he, bind_assoc]
  rfl

/-- a conversion in front changes neither what a sequence needs nor what it leaves -/
theorem enough_convIf_append (a b : Ty) (os : List Op3) {n : Nat} (h : 1 ≤ n) :
    enough (convIf a b ++ os) n = enough os n ∧ outLen (convIf a b ++ os) n = outLen os n := by
  unfold convIf
  split
  · exact ⟨rfl, rfl⟩
  · simp [enough, outLen, arity, h]

theorem enough_convIf (a b : Ty) : enough (convIf a b) 1 = true ∧ outLen (convIf a b) 1 = 1 := by
  unfold convIf; split <;> exact ⟨rfl, rfl⟩

theorem enough_specOps (op : Nat) : enough (specOps op) 2 = true := by
  unfold specOps; split <;> rfl

theorem enough_specUn (op : Nat) (a : Ty) : enough (specUn op a) 1 = true := by
  unfold specUn
  split
  · rfl
  · split
    · rfl
    · exact (enough_convIf_append a _ [.un .not] (Nat.le_refl 1)).1

/-- OBLIGATION `allSpecOk`, for one accepted row: the emitted code is the conversions and instructions the language's rule
    prescribes, and they leave one cell -/
theorem bin_spec {op : Nat} {l r t : Ty} {x : Nat} {y z : Ty} {code cl cr : List Nat}
    (hrow : binRow op l r = some (x, y, z, true, some t, code)) (hsp : splitBin code = some (cl, cr)) :
    decodeAll cl = some (convIf l (specTy op l r t)) ∧
    decodeAll cr = some (convIf r (specTy op l r t) ++ specOps op) ∧
    outLen (convIf r (specTy op l r t) ++ specOps op) 2 = 1 := by
  obtain ⟨rfl, rfl, rfl, _⟩ := binRow_sound hrow
  have := List.all_eq_true.mp (Bool.and_eq_true _ _ ▸ allSpecOk_lem).1 _ (lookupN_mem _ _ _ hrow)
  simpa [specOkRow, hsp, and_assoc] using this

theorem un_spec {op : Nat} {a t : Ty} {x : Nat} {y : Ty} {code c : List Nat}
    (hrow : unRow op a = some (x, y, true, some t, code)) (hsp : splitUn code = some c) :
    decodeAll c = some (specUn op a) ∧ outLen (specUn op a) 1 = 1 := by
  obtain ⟨rfl, rfl, _⟩ := unRow_sound hrow
  have := List.all_eq_true.mp (Bool.and_eq_true _ _ ▸ allSpecOk_lem).2 _ (lookupN_mem _ _ _ hrow)
  simpa [specOkUnRow, hsp] using this

/-- compiled expression code in front of any continuation: it computes the reference value and hands it on, or stops
    with the reference semantics' error -/
theorem compileC_run {F} (ops : FOps F) : ∀ (e : CE F) (t : Ty), ty e.erase = some t →
    ∃ code, compileC e = some code ∧
      ∀ rest st, runC ops (code ++ rest) st = Res.bind (refEval ops e) (fun v => runC ops rest (v :: st))
  | .leaf c, t, _ => ⟨[.push c], rfl, fun _ _ => rfl⟩
  | .bin op ea eb, t, h => by
    obtain ⟨l, r, code, hta, htb, hrow, hok⟩ := ty_bin_some h
    obtain ⟨cl, cr, _, hsp, -, -⟩ := binOkRow_some hok
    obtain ⟨hcl, hcr, hout⟩ := bin_spec hrow hsp
    obtain ⟨ca, hca, hra⟩ := compileC_run ops ea l hta
    obtain ⟨cb, hcb, hrb⟩ := compileC_run ops eb r htb
    refine ⟨ca ++ cl.map .op ++ cb ++ cr.map .op, by simp only [compileC, hta, htb, hca, hcb, hrow, hsp], fun rest st => ?_⟩
    have ht : ty (E.bin op ea.erase eb.erase) = some t := h
    simp only [refEval, hta, htb, ht, List.append_assoc, hra, bind_assoc]
    -- left operand, then its conversion: one cell stays one cell
    refine bind_congr fun va _ => ?_
    obtain ⟨hen1, hout1⟩ := enough_convIf l (specTy op l r t)
    rw [show va :: st = [va] ++ st from rfl, runC_decoded ops hcl [va] st _ hen1]
    refine bind_congr fun sa hsa => ?_
    obtain ⟨va', rfl⟩ := applyAll_one ops hout1 hsa
    -- right operand, its conversion and the operator: two cells become one
    rw [List.singleton_append, hrb]
    refine bind_congr fun vb _ => ?_
    have hen : enough (convIf r (specTy op l r t) ++ specOps op) 2 = true :=
      (enough_convIf_append r _ _ (by decide)).1.trans (enough_specOps op)
    rw [show vb :: va' :: st = [vb, va'] ++ st from rfl, runC_decoded ops hcr [vb, va'] st rest hen]
    refine bind_congr fun s hs => ?_
    obtain ⟨v, rfl⟩ := applyAll_one ops hout hs
    rfl
  | .un op ea, t, h => by
    obtain ⟨ta, code, hta, hrow, hok⟩ := ty_un_some h
    obtain ⟨c, hsp, -⟩ := unOkRow_some hok
    obtain ⟨hc, hout⟩ := un_spec hrow hsp
    obtain ⟨ca, hca, hra⟩ := compileC_run ops ea ta hta
    refine ⟨ca ++ c.map .op, by simp only [compileC, hta, hca, hrow, hsp], fun rest st => ?_⟩
    simp only [refEval, hta, List.append_assoc, hra, bind_assoc]
    refine bind_congr fun va _ => ?_
    rw [show va :: st = [va] ++ st from rfl, runC_decoded ops hc [va] st rest (enough_specUn op ta)]
    refine bind_congr fun s hs => ?_
    obtain ⟨v, rfl⟩ := applyAll_one ops hout hs
    rfl

end Qbee.ExprSem
