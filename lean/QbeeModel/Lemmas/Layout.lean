import QbeeModel.Model.Layout
namespace Qbee.Layout

attribute [simp] frameSize

@[simp] theorem frameSize_append (a b : List (String × VType)) : frameSize (a ++ b) = frameSize a + frameSize b := by
  induction a with
  | nil => simp
  | cons x r ih => simp [ih, Nat.add_assoc]

@[simp] theorem paramSlot_size (t : VType) : (paramSlot t).size = 1 := rfl

@[simp] theorem frameSize_params (ps : List (String × VType)) :
    frameSize (ps.map (fun p => (p.1, paramSlot p.2))) = ps.length := by
  induction ps with
  | nil => rfl
  | cons p r ih => simp [ih, Nat.add_comm]

theorem varIdx_append_left {a : List (String × VType)} (b : List (String × VType)) {v : String} {k : Nat}
    (h : varIdx a v = some k) :
    varIdx (a ++ b) v = some k := by
  induction a generalizing k with
  | nil => simp [varIdx] at h
  | cons p r ih =>
    simp only [List.cons_append, varIdx] at h ⊢
    split at h
    · simp [*]
    · obtain ⟨k', hr, rfl⟩ := Option.map_eq_some_iff.mp h
      simp [*, ih hr]

theorem varIdx_append_right {a : List (String × VType)} (b : List (String × VType)) {v : String} (h : ∀ p ∈ a, p.1 ≠ v) :
    varIdx (a ++ b) v = (varIdx b v).map (· + frameSize a) := by
  induction a with
  | nil => simp
  | cons p r ih =>
    rw [List.forall_mem_cons] at h
    simp [varIdx, h.1, ih h.2, Function.comp_def, Nat.add_comm, Nat.add_assoc]

theorem varIdx_of_nodup {a : List (String × VType)} {x : String × VType} {b : List (String × VType)}
    (h : ((a ++ x :: b).map (·.1)).Nodup) : varIdx (a ++ x :: b) x.1 = some (frameSize a) := by
  have hne : ∀ y ∈ a, y.1 ≠ x.1 := by
    rw [List.map_append, List.nodup_append] at h
    exact fun y hy => h.2.2 y.1 (List.mem_map_of_mem hy) x.1 (List.mem_map_of_mem List.mem_cons_self)
  rw [varIdx_append_right _ hne, varIdx, if_pos rfl]
  simp

theorem varIdx_param_pos {ps : List (String × VType)} {k : Nat} (hk : k < ps.length) (hnd : (ps.map (·.1)).Nodup) :
    varIdx (ps.map (fun p => (p.1, paramSlot p.2))) (ps[k]).1 = some k := by
  induction ps generalizing k with
  | nil => simp at hk
  | cons p r ih =>
    cases k with
    | zero => simp [varIdx]
    | succ k =>
      rw [List.map_cons, List.nodup_cons] at hnd
      have hk : k < r.length := Nat.lt_of_succ_lt_succ hk
      have hne : p.1 ≠ r[k].1 := fun h => hnd.1 (h ▸ List.mem_map_of_mem (List.getElem_mem hk))
      simp [varIdx, hne, ih hk hnd.2]

theorem sizeL_take_mono {fs : List FType} {i j : Nat} {f : FType} (hij : i < j) (h : fs[i]? = some f) :
    sizeL (fs.take i) + f.size ≤ sizeL (fs.take j) := by
  induction fs generalizing i j with
  | nil => cases h
  | cons g r ih =>
    cases j with
    | zero => cases hij
    | succ j =>
      cases i with
      | zero => cases h; simp [sizeL]
      | succ i =>
        rw [List.take_succ_cons, List.take_succ_cons, sizeL, sizeL, Nat.add_assoc]
        exact Nat.add_le_add_left (ih (Nat.lt_of_succ_lt_succ hij) h) _

theorem sizeL_take_le {fs : List FType} {i : Nat} {f : FType} (h : fs[i]? = some f) :
    sizeL (fs.take i) + f.size ≤ sizeL fs := by
  simpa using sizeL_take_mono (j := fs.length) (List.getElem?_eq_some_iff.mp h).1 h

theorem field_cons {t : FType} {i : Nat} {p : List Nat} {o : Nat} {ft : FType}
    (ho : fieldOffset t (i :: p) = some o) (hf : fieldType t (i :: p) = some ft) :
    ∃ fs f o', t = .record fs ∧ fs[i]? = some f ∧ fieldOffset f p = some o' ∧ fieldType f p = some ft ∧
      o = o' + sizeL (fs.take i) := by
  cases t with
  | cell => simp [fieldOffset] at ho
  | record fs =>
    simp only [fieldOffset, fieldType] at ho hf
    cases hfi : fs[i]? with
    | none => simp [hfi] at ho
    | some f =>
      simp only [hfi, Option.map_eq_some_iff] at ho hf
      obtain ⟨o', ho', rfl⟩ := ho
      exact ⟨fs, f, o', rfl, hfi, ho', hf, rfl⟩

theorem elemOffset_nil {e : Nat} {is : List Int} {o : Nat} (h : elemOffset e [] is = some o) : is = [] ∧ o = 0 := by
  cases is <;> simp_all [elemOffset]

theorem elemOffset_cons {e : Nat} {d : Int × Int} {ds : List (Int × Int)} {is : List Int} {o : Nat}
    (h : elemOffset e (d :: ds) is = some o) :
    ∃ (k : Nat) (is' : List Int) (o' : Nat), is = (d.1 + k) :: is' ∧ k < extent d ∧ elemOffset e ds is' = some o' ∧
      o = o' + prodExt ds * e * k := by
  cases is with
  | nil => cases h
  | cons i is =>
    rw [elemOffset] at h
    split at h
    · cases h
    · next hb =>
      obtain ⟨o', ho', rfl⟩ := Option.map_eq_some_iff.mp h
      have hlo : d.1 ≤ i := Int.not_lt.mp (hb ∘ .inl)
      have hhi : i ≤ d.2 := Int.not_lt.mp (hb ∘ .inr)
      refine ⟨(i - d.1).toNat, is, o', ?_, ?_, ho', rfl⟩
      · rw [Int.toNat_of_nonneg (Int.sub_nonneg_of_le hlo), Int.add_comm, Int.sub_add_cancel]
      · exact (Int.toNat_lt_toNat (Int.lt_add_one_of_le (Int.sub_nonneg_of_le (Int.le_trans hlo hhi)))).mpr
          (Int.lt_add_one_of_le (Int.sub_le_sub_right hhi _))

/-- one more digit of a mixed-radix number: an offset `a` (with room `e`) inside a block of size `S`, in block `k` of `n` -/
theorem add_mul_le {S a e k n : Nat} (ha : a + e ≤ S) (hk : k < n) : a + S * k + e ≤ S * n :=
  calc a + S * k + e ≤ S * (k + 1) := by rw [Nat.mul_succ]; omega
    _ ≤ S * n := Nat.mul_le_mul_left S hk

theorem elemOffset_bound {e : Nat} {ds : List (Int × Int)} {is : List Int} {o : Nat}
    (h : elemOffset e ds is = some o) : o + e ≤ prodExt ds * e := by
  induction ds generalizing is o with
  | nil => simp [(elemOffset_nil h).2, prodExt]
  | cons d ds ih =>
    obtain ⟨k, is, o', rfl, hk, ho', rfl⟩ := elemOffset_cons h
    calc o' + prodExt ds * e * k + e ≤ prodExt ds * e * extent d := add_mul_le (ih ho') hk
      _ = prodExt (d :: ds) * e := by rw [prodExt, Nat.mul_comm (extent d), Nat.mul_right_comm]

/-- ... and the number determines the digit and the rest -/
theorem add_mul_inj {S a b k l : Nat} (ha : a < S) (hb : b < S) (h : a + S * k = b + S * l) : a = b ∧ k = l := by
  have hk : k = l := by
    simpa [Nat.add_mul_div_left _ _ (Nat.zero_lt_of_lt ha), Nat.div_eq_of_lt ha, Nat.div_eq_of_lt hb]
      using congrArg (· / S) h
  subst hk
  exact ⟨by omega, rfl⟩

@[simp] theorem bindGo_fst_length {V} (next : Nat) (args : List (Arg V)) :
    (bindGo next args).1.length = args.length := by
  induction args with
  | nil => rfl
  | cons a r ih => cases a <;> simp [bindGo, ih]

@[simp] theorem bindGo_snd_length {V} (next : Nat) (args : List (Arg V)) :
    (bindGo next args).2.length = nVals args := by
  induction args with
  | nil => rfl
  | cons a r ih => cases a <;> simp [bindGo, nVals, ih]

theorem bindGo_ref {V} (next : Nat) {args : List (Arg V)} {i s k : Nat} (h : args[i]? = some (.ref s k)) :
    (bindGo next args).1[i]? = some (.ref s k) := by
  induction args generalizing i with
  | nil => cases h
  | cons a r ih =>
    cases i with
    | zero => cases h; rfl
    | succ i => cases a <;> exact ih h

theorem bindGo_val {V} (next : Nat) {args : List (Arg V)} {i : Nat} {v : V} (h : args[i]? = some (.val v)) :
    (bindGo next args).1[i]? = some (.ref 0 (next + nVals (args.drop (i + 1)))) ∧
    (bindGo next args).2[nVals (args.drop (i + 1))]? = some (.val v) := by
  induction args generalizing i with
  | nil => cases h
  | cons a r ih =>
    cases i with
    | zero =>
      cases h
      rw [← bindGo_snd_length next]
      exact ⟨rfl, List.getElem?_concat_length⟩
    | succ i =>
      obtain ⟨ih1, ih2⟩ := ih h
      cases a with
      | ref s k => exact ⟨ih1, ih2⟩
      | val w =>
        -- the temporary of `a` is appended behind the one found in `r`
        exact ⟨ih1, (List.getElem?_append_left (List.getElem?_eq_some_iff.mp ih2).1).trans ih2⟩

theorem bindParams_param {V} (nL : Nat) {args : List (Arg V)} {i : Nat} (hi : i < args.length) :
    (bindParams nL args)[i]? = (bindGo (args.length + nL) args).1[i]? := by
  unfold bindParams
  rw [List.append_assoc, List.getElem?_append_left (by simpa using hi)]

theorem bindParams_temp {V} (nL : Nat) (args : List (Arg V)) (t : Nat) :
    (bindParams nL args)[args.length + nL + t]? = (bindGo (args.length + nL) args).2[t]? := by
  unfold bindParams
  rw [List.getElem?_append_right (by simp [Nat.le_add_right])]
  simp

theorem nVals_drop_lt {V} {args : List (Arg V)} {i j : Nat} {v : V} (hij : i ≤ j) (h : args[j]? = some (.val v)) :
    nVals (args.drop (j + 1)) < nVals (args.drop i) := by
  induction args generalizing i j with
  | nil => cases h
  | cons a r ih =>
    cases j with
    | zero => cases h; cases hij; exact Nat.lt_succ_self _
    | succ j =>
      cases i with
      | succ i => exact ih (Nat.le_of_succ_le_succ hij) h
      | zero =>
        have := ih (Nat.zero_le j) h
        cases a with
        | ref s k => exact this
        | val w => exact Nat.lt_succ_of_lt this

end Qbee.Layout
