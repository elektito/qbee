import QbeeModel.Model.Src
import QbeeModel.Lemmas.Arith
/-
  Variables, array cells and copy-out of Model/Src.lean: what the array and procedure parts of Props/C01.lean rest on.
-/
namespace Qbee.Src

@[simp] theorem setVar_length (env : Env) (w : Nat) (x : Int) : (setVar env w x).length = env.length := by
  unfold setVar; split <;> simp

theorem getVar_setVar_ne {env : Env} {w v : Nat} {x : Int} (h : v ≠ w) : getVar (setVar env w x) v = getVar env v := by
  unfold getVar setVar
  split <;> simp [List.getElem?_set_ne (Ne.symm h)]

theorem getVar_setVar_eq {env : Env} {v : Nat} {x : Int} (h : v < env.length) : getVar (setVar env v x) v = x := by
  simp [getVar, setVar, h]

/-- the subscript as `lo + j` with a natural `j`: nothing about `Int.toNat` is left to the users -/
theorem elemCell_eq_ok {env : Env} {base : Nat} {lo hi k : Int} {c : Nat} :
    elemCell env base lo hi k = .ok c ↔ ∃ j : Nat, k = lo + j ∧ k ≤ hi ∧ c = base + j ∧ c < env.length := by
  unfold elemCell
  constructor
  · intro h
    split at h
    · cases h
    · have hk : k = lo + (k - lo).toNat ∧ k ≤ hi := by omega
      split at h
      · next hlt => cases h; exact ⟨_, hk.1, hk.2, rfl, hlt⟩
      · cases h
  · rintro ⟨j, rfl, hk, rfl, hlt⟩
    obtain ⟨hin, hj⟩ : ¬(lo + j < lo ∨ lo + j > hi) ∧ (lo + j - lo).toNat = j := by omega
    rw [if_neg hin, hj, if_pos hlt]

theorem copyOut_no_refs {env : Env} {args : List Arg} {cenv : Env} {i : Nat} (h : refsOf args = []) :
    copyOut env args cenv i = env := by
  fun_induction copyOut env args cenv i <;> simp_all [refsOf]

theorem copyOut_other {env : Env} {args : List Arg} {cenv : Env} {i v : Nat} (h : v ∉ refsOf args) :
    getVar (copyOut env args cenv i) v = getVar env v := by
  fun_induction copyOut env args cenv i <;> simp_all [refsOf, getVar_setVar_ne]

theorem copyOut_length : ∀ (env : Env) (args : List Arg) (cenv : Env) (i : Nat), (copyOut env args cenv i).length = env.length := by
  intro env args cenv i
  fun_induction copyOut env args cenv i <;> simp_all

theorem copyOut_ref {env cenv : Env} {args : List Arg} {i k v : Nat} (hk : args[k]? = some (.ref v)) (hna : NoAlias args)
    (hv : v < env.length) : getVar (copyOut env args cenv i) v = getVar cenv (k + i) := by
  fun_induction copyOut env args cenv i generalizing k with
  | case1 => cases hk
  | case2 env w r cenv i ih =>   -- `.ref w :: r`
    rw [NoAlias, refsOf, List.nodup_cons] at hna
    cases k with
    | zero =>
      cases hk
      rw [copyOut_other hna.1, getVar_setVar_eq hv, Nat.zero_add]
    | succ k => rw [ih hk hna.2 (by rwa [setVar_length]), Nat.add_right_comm]; rfl
  | case3 env e r cenv i ih =>   -- `.val e :: r`
    cases k with
    | zero => cases hk
    | succ k => rw [ih hk hna hv, Nat.add_right_comm]; rfl

/-- a CALL that fails before its body runs leaves the caller's variables alone; otherwise they are a copy-out from the callee's
    final frame: what holds of both holds of the variables after the call -/
theorem call_result_env {procs : List Proc} {fuel : Nat} {env : Env} {out : List Int} {p : Nat} {args : List Arg} {res : Res}
    {P : Env → Prop} (h0 : P env) (h1 : ∀ cenv, P (copyOut env args cenv 0))
    (h : exec procs fuel env out (.call p args) = some res) : P res.env := by
  -- no such procedure, wrong number of arguments, an argument that fails: the caller's variables as they were;
  -- otherwise the body runs out of fuel, or returns and `copyOut` writes the reference arguments back
  unfold exec at h
  split at h
  · cases h; exact h0
  · split at h
    · cases h; exact h0
    · split at h
      · cases h; exact h0
      · split at h
        · cases h
        · cases h; exact h1 _

/-! ### INTEGER cells of the machine, seen from the language -/

/-- what a machine result looks like from the language's side -/
def ofRes {F} : Arith.Res (Arith.Cell F) → Option (Except String Int)
  | .ok (.int .i v) => some (.ok v)
  | .trap c => some (.error c)
  | _ => none

/-- boxing at INTEGER is the language's range check -/
theorem ofRes_mk {F} (ops : Arith.FOps F) (v : Int) :
    ofRes (Arith.mk ops .i (.int v)) = some (if inInt v then .ok v else .error "INVALID_CELL_VALUE") := by
  rw [Arith.mk_int ops (.inl rfl)]
  show ofRes (if inInt v = true then _ else _) = _
  split <;> rfl

/-- the sign of the machine's three-way comparison -/
theorem cmp_sign (x y c : Int) (hc : c = if x = y then 0 else if x < y then -1 else 1) :
    (c = 0 ↔ x = y) ∧ (c < 0 ↔ x < y) ∧ (c > 0 ↔ x > y) ∧ (c ≤ 0 ↔ x ≤ y) ∧ (c ≥ 0 ↔ x ≥ y) := by
  subst hc
  split
  · omega
  · split <;> omega

end Qbee.Src
