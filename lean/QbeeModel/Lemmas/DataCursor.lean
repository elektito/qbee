import QbeeModel.Model.Data
namespace Qbee.Data

def Good (data : List (List DItem)) : Prop := ∀ p ∈ data, p ≠ []

theorem pyIndex_nat {α} (l : List α) (n : Nat) : pyIndex l (n : Int) = l[n]? := by
  simp [pyIndex]

/-- with the cursor at item `j` of part `i`, or one past the last part, successive READs deliver the rest of the data
    section in order -/
theorem readMany_from (data : List (List DItem)) (hg : Good data) (k i j : Nat)
    (hj : ∀ h : i < data.length, j < data[i].length) :
    readMany data ⟨(i : Int), j⟩ k = ((data.drop i).flatten.drop j).take k := by
  induction k generalizing i j with
  | zero => simp [readMany]
  | succ k ih =>
    by_cases hi : i < data.length
    · have hj := hj hi
      have hsplit : (data.drop i).flatten = data[i] ++ (data.drop (i + 1)).flatten := by
        rw [List.drop_eq_getElem_cons hi, List.flatten_cons]
      rw [hsplit, List.drop_append_of_le_length (Nat.le_of_lt hj), List.drop_eq_getElem_cons hj, readMany]
      simp only [readRaw, pyIndex_nat, List.getElem?_eq_getElem hi, List.getElem?_eq_getElem hj,
        List.cons_append, List.take_succ_cons]
      congr 1
      split
      · next hend =>
        -- the last item of part `i`: on to part `i + 1`, which is not empty
        have ih := ih (i + 1) 0 fun h => List.length_pos_iff.mpr (hg _ (List.getElem_mem h))
        simpa [List.drop_of_length_le hend] using ih
      · next hmid =>
        have ih := ih i (j + 1) fun _ => by omega
        rwa [hsplit, List.drop_append_of_le_length (by omega)] at ih
    · simp [readMany, readRaw, pyIndex_nat, List.drop_of_length_le, Nat.le_of_not_lt hi]

end Qbee.Data
