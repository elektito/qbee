import QbeeModel.Model.StmtDepthLazy
import QbeeModel.Lemmas.StmtDepth
/-
  Which marks are valid after each kind of step of Model/StmtDepthLazy.lean: those that were valid and lie below the cut,
  since the cells pushed are fresh.  Hence an instruction and a GOSUB of the code are, seen through `abs`, steps of the
  eager model, and a handled error cuts the stack back to the same depth.
-/
namespace Qbee.StmtDepth.Lazy

theorem fresh_eq_range' : ∀ k n, fresh n k = List.range' n k
  | 0, _ => rfl
  | k + 1, n => by rw [fresh, fresh_eq_range' k, List.range'_succ]

theorem fresh_length (n k : Nat) : (fresh n k).length = k := by rw [fresh_eq_range', List.length_range']

theorem mem_fresh {c n k : Nat} : c ∈ fresh n k ↔ n ≤ c ∧ c < n + k := by rw [fresh_eq_range', List.mem_range'_1]

/-- validating from the innermost end finds the mark that keeping only the valid ones puts first -/
theorem depthOf_validated (base : Nat) (stack : List Nat) : ∀ marks : List (Nat × Nat),
    depthOf base (validated stack marks) = stmtDepth { base := base, marks := (marks.filter (valid stack)).map (·.1) }
  | [] => rfl
  | m :: r => by
    have ih : depthOf base (r.dropWhile _) = _ := depthOf_validated base stack r
    cases hv : valid stack m
    · simpa [validated, hv] using ih
    · simp [validated, hv]
      rfl

theorem valid_lt {stack : List Nat} {m : Nat × Nat} (h : valid stack m = true) : m.1 < stack.length :=
  (List.getElem?_eq_some_iff.1 (beq_iff_eq.1 h)).1

theorem valid_after_instr (stack : List Nat) (next d q : Nat) (hd : d ≤ stack.length) (m : Nat × Nat) (hm : m.2 < next) :
    valid (stack.take d ++ fresh next q) m = (decide (m.1 < d) && valid stack m) := by
  have hl : (stack.take d).length = d := List.length_take_of_le hd
  unfold valid
  by_cases h : m.1 < d
  · rw [List.getElem?_append_left (by rwa [hl]), List.getElem?_take_of_lt h, decide_eq_true h, Bool.true_and]
  · rw [List.getElem?_append_right (by rw [hl]; exact Nat.le_of_not_lt h), hl]
    -- the cell now at the mark's index, if any, is fresh: not the one the mark remembers
    have hne : (fresh next q)[m.1 - d]? ≠ some m.2 := fun hc =>
      Nat.not_le_of_lt hm (mem_fresh.1 (List.mem_of_getElem? hc)).1
    simp [h, hne]

/-- GOSUB pushes one fresh cell: the validity of the marks there are is unchanged -/
theorem valid_push (stack : List Nat) (next : Nat) (m : Nat × Nat) (hm : m.2 < next) :
    valid (stack ++ [next]) m = valid stack m := by
  have h := valid_after_instr stack next stack.length 1 (Nat.le_refl _) m hm
  rw [List.take_length] at h
  rw [show [next] = fresh next 1 from rfl, h]
  cases hv : valid stack m
  · exact Bool.and_false _
  · simp [valid_lt hv]

/-- an ordinary instruction: the code's state, seen through `abs`, moves as the eager model says -/
theorem instr_refines (s : LSt) (hf : Fresh s) (p q : Nat) : abs (lstep s (.instr p q)) = step (abs s) (.instr p q) := by
  rw [step_instr rfl]
  -- the marks that stay valid are the valid ones below the cut
  simp only [abs, lstep, Frame.pruned, prune, List.filter_map, List.filter_filter, List.length_append, List.length_take,
    fresh_length, Nat.min_eq_left (Nat.sub_le _ _),
    List.filter_congr fun m hm => valid_after_instr s.stack s.next _ q (Nat.sub_le _ p) m (hf.2 m hm)]
  rfl

theorem instr_fresh (s : LSt) (hf : Fresh s) (p q : Nat) : Fresh (lstep s (.instr p q)) := by
  refine ⟨fun c hc => ?_, fun m hm => Nat.lt_add_right q (hf.2 m hm)⟩
  rcases List.mem_append.1 hc with hc | hc
  · exact Nat.lt_add_right q (hf.1 c (List.mem_of_mem_take hc))
  · exact (mem_fresh.1 hc).2

/-- GOSUB: the return address is a fresh cell on top; its mark is valid, the validity of the others is unchanged -/
theorem gosub_refines (s : LSt) (hf : Fresh s) : abs (lstep s .gosub) = step (abs s) .gosub := by
  have hnew : valid (s.stack ++ [s.next]) (s.stack.length, s.next) = true := by simp [valid]
  rw [step_gosub rfl]
  simp only [abs, lstep, List.filter_cons, hnew, if_true, List.map_cons, List.length_append, List.length_singleton,
    List.filter_congr fun m hm => valid_push s.stack s.next m (hf.2 m hm)]

/-- for the stack and the identities GOSUB is `instr 0 1`; the mark it adds remembers the cell it has just pushed -/
theorem gosub_fresh (s : LSt) (hf : Fresh s) : Fresh (lstep s .gosub) := by
  have h := instr_fresh s hf 0 1
  simp only [lstep, Nat.sub_zero, List.take_length] at h
  exact ⟨h.1, List.forall_mem_cons.2 ⟨Nat.lt_succ_self _, h.2⟩⟩

/-- a handled error: the depth the code cuts the stack back to is the depth the eager model cuts it back to -/
theorem handled_refines_depth (s : LSt) :
    (abs (lstep s .handledNext)).depth = (step (abs s) .handledNext).depth := by
  rw [step_handledNext rfl, ← depthOf_validated, Nat.min_comm]
  exact List.length_take

def lrun (s : LSt) (evs : List LEv) : LSt := evs.foldl lstep s

theorem step_refines (s : LSt) (hf : Fresh s) (e : LEv) (he : e ≠ .handledNext) :
    abs (lstep s e) = step (abs s) (toEv e) ∧ Fresh (lstep s e) := by
  cases e with
  | instr p q => exact ⟨instr_refines s hf p q, instr_fresh s hf p q⟩
  | gosub => exact ⟨gosub_refines s hf, gosub_fresh s hf⟩
  | handledNext => exact absurd rfl he

end Qbee.StmtDepth.Lazy
