import QbeeModel.Model.Data
namespace Qbee.Data

def labels : List Ev → List String
  | [] => []
  | .label l :: r => l :: labels r
  | .data _ :: r => labels r

def allItems : List Ev → List DItem
  | [] => []
  | .label _ :: r => allItems r
  | .data its :: r => its ++ allItems r

theorem labelOrder_eq_labels (evs : List Ev) : labelOrder evs = labels evs := by
  fun_induction labels evs <;> simp [labelOrder, *]

theorem labels_append (a b : List Ev) : labels (a ++ b) = labels a ++ labels b := by
  fun_induction labels a <;> simp [labels, *]

abbrev Groups := List (Option String × List DItem)
def keys (g : Groups) : List (Option String) := g.map (·.1)

@[simp] theorem keys_nil : keys [] = [] := rfl
@[simp] theorem keys_cons (k : Option String) (its : List DItem) (g : Groups) : keys ((k, its) :: g) = k :: keys g := rfl
@[simp] theorem keys_append (g h : Groups) : keys (g ++ h) = keys g ++ keys h := List.map_append

theorem addTo_append {G : Groups} {key : Option String} (h : key ∉ keys G) (H : Groups) (items : List DItem) :
    addTo (G ++ H) key items = G ++ addTo H key items := by
  fun_induction addTo G key items <;> simp_all [addTo]

theorem labelIndex_append {G : Groups} {l : String} (h : some l ∉ keys G) (H : Groups) :
    labelIndex (G ++ H) l = (labelIndex H l).map (· + G.length) := by
  fun_induction labelIndex G l <;> simp_all [labelIndex, Function.comp_def, Nat.add_assoc]

theorem labelIndex_eq_none_iff {g : Groups} {l : String} : labelIndex g l = none ↔ some l ∉ keys g := by
  fun_induction labelIndex g l <;> simp_all [@eq_comm _ (some l)]

theorem firstKeyed_append {G : Groups} {ls : List String} (h : ∀ l ∈ ls, some l ∉ keys G) (H : Groups) :
    firstKeyed (G ++ H) ls = G.length + firstKeyed H ls := by
  induction ls with
  | nil => simp [firstKeyed]
  | cons l r ih =>
    simp only [List.mem_cons, forall_eq_or_imp] at h
    rw [firstKeyed, firstKeyed, labelIndex_append h.1, ih h.2]
    cases labelIndex H l <;> simp [Nat.add_comm]

/-- `order[order.index(l) + 1:]` is what `labelTarget` searches when `l` has no group of its own -/
theorem labelTarget_eq_firstKeyed {g : Groups} {a r : List String} {l : String} (h : l ∉ a) :
    labelTarget g (a ++ l :: r) l = firstKeyed g (l :: r) := by
  have : ((a ++ l :: r).dropWhile (· != l)).drop 1 = r := by
    have ha : ∀ x ∈ a, (x != l) = true := fun x hx => bne_iff_ne.mpr fun e => h (e ▸ hx)
    rw [List.dropWhile_append_of_pos ha, List.dropWhile_cons_of_neg (by simp)]
    rfl
  rw [labelTarget, this, firstKeyed]

/-! ### the groups of a program with distinct labels

Every label opens a section; a section has a group iff a DATA statement stands in it; the groups appear in source order. -/

/-- the group collected so far under the current key; `none`: no DATA statement seen under this key yet -/
def curGroup (k : Option String) (cur : Option (List DItem)) : Groups := cur.toList.map (k, ·)

@[simp] theorem curGroup_none (k : Option String) : curGroup k none = [] := rfl
@[simp] theorem curGroup_some (k : Option String) (its : List DItem) : curGroup k (some its) = [(k, its)] := rfl

theorem mem_keys_curGroup {k x : Option String} {cur : Option (List DItem)} (h : x ∈ keys (curGroup k cur)) : x = k := by
  cases cur <;> simp_all

/-- the groups from the current section on -/
def sections (k : Option String) (cur : Option (List DItem)) : List Ev → Groups
  | [] => curGroup k cur
  | .label l :: r => curGroup k cur ++ sections (some l) none r
  | .data its :: r => sections k (some (cur.getD [] ++ its)) r

/-- `G`: the groups closed so far.  Their keys, the current key and the labels still to come are distinct -/
theorem groupFrom_eq_sections (evs : List Ev) (k : Option String) (cur : Option (List DItem)) (G : Groups)
    (hnd : (k :: (labels evs).map some).Nodup) (hfresh : ∀ x ∈ k :: (labels evs).map some, x ∉ keys G) :
    groupFrom k (G ++ curGroup k cur) evs = G ++ sections k cur evs := by
  -- the branches of `sections`: no event left, a label, a DATA statement
  fun_induction sections k cur evs generalizing G with
  | case1 => rfl
  | case2 k cur l r ih =>
    have hnd := List.nodup_cons.mp hnd
    have := ih (G ++ curGroup k cur) hnd.2 fun x hx hm => by
      rw [keys_append, List.mem_append] at hm
      exact hm.elim (hfresh x (List.mem_cons_of_mem _ hx)) fun hm => hnd.1 (mem_keys_curGroup hm ▸ hx)
    simpa [groupFrom] using this
  | case3 k cur its r ih =>
    have : addTo (curGroup k cur) k its = curGroup k (some (cur.getD [] ++ its)) := by
      cases cur <;> simp [curGroup, addTo]
    rw [groupFrom, addTo_append (hfresh k List.mem_cons_self), this]
    exact ih G hnd hfresh

theorem groupData_eq_sections {evs : List Ev} (h : (labels evs).Nodup) : groupData evs = sections none none evs := by
  have hnd : (none :: (labels evs).map some).Nodup :=
    List.nodup_cons.mpr ⟨by simp, h.map some fun _ _ hne e => hne (Option.some.inj e)⟩
  simpa [curGroup, groupData] using groupFrom_eq_sections evs none none [] hnd (by simp)

theorem sections_append_label (a b : List Ev) (l : String) (k : Option String) (cur : Option (List DItem)) :
    sections k cur (a ++ .label l :: b) = sections k cur a ++ sections (some l) none b := by
  fun_induction sections k cur a <;> simp [sections, *]

theorem flatten_sections (evs : List Ev) (k : Option String) (cur : Option (List DItem)) :
    ((sections k cur evs).map (·.2)).flatten = cur.getD [] ++ allItems evs := by
  have hcur (k cur) : ((curGroup k cur).map (·.2)).flatten = cur.getD [] := by cases cur <;> simp
  fun_induction sections k cur evs <;> simp [allItems, *]

theorem not_mem_keys_sections {evs : List Ev} {k : Option String} {cur : Option (List DItem)} {l : String}
    (hk : some l ≠ k) (hl : l ∉ labels evs) : some l ∉ keys (sections k cur evs) := by
  -- no event left, a label, a DATA statement
  fun_induction sections k cur evs with
  | case1 => exact fun hm => hk (mem_keys_curGroup hm)
  | case2 k cur l' r ih =>
    simp only [labels, List.mem_cons, not_or] at hl
    simp only [keys_append, List.mem_append, not_or]
    exact ⟨fun hm => hk (mem_keys_curGroup hm), ih (fun e => hl.1 (Option.some.inj e)) hl.2⟩
  | case3 k cur its r ih => exact ih hk hl

/-- a section in which a DATA statement stands has its group in front -/
theorem sections_some (evs : List Ev) (k : Option String) (its : List DItem) :
    ∃ its' r, sections k (some its) evs = (k, its') :: r := by
  induction evs generalizing its with
  | nil => exact ⟨its, [], rfl⟩
  | cons e r ih =>
    cases e with
    | label l => exact ⟨its, _, rfl⟩
    | data its' => exact ih _

/-- the first group from label `l` on belongs to the first of `l` and the later labels that has one -/
theorem firstKeyed_sections {evs : List Ev} {l : String} (h : (l :: labels evs).Nodup) :
    firstKeyed (sections (some l) none evs) (l :: labels evs) = 0 := by
  induction evs generalizing l with
  | nil => rfl
  | cons e r ih =>
    cases e with
    | data its =>
      obtain ⟨its', r', hs⟩ := sections_some r (some l) its
      simp [sections, hs, firstKeyed, labelIndex]
    | label l2 =>
      simp only [labels, List.nodup_cons, List.mem_cons, not_or] at h
      have hl : labelIndex (sections (some l2) none r) l = none :=
        labelIndex_eq_none_iff.mpr (not_mem_keys_sections (fun e => h.1.1 (Option.some.inj e)) h.1.2)
      rw [labels, firstKeyed, sections, curGroup_none, List.nil_append, hl]
      exact ih (List.nodup_cons.mpr h.2)

/-- the grouping splits at a label, and the index the compiler pushes for the label is the number of groups before it,
    whether the label has a group of its own or not -/
theorem labelTarget_split {pre post : List Ev} {l : String} (h : (labels (pre ++ .label l :: post)).Nodup) :
    groupData (pre ++ .label l :: post) = groupData pre ++ sections (some l) none post ∧
    labelTarget (groupData (pre ++ .label l :: post)) (labelOrder (pre ++ .label l :: post)) l = (groupData pre).length := by
  have hg := groupData_eq_sections h
  rw [labels_append, labels] at h
  obtain ⟨hpre, hpost, hdisj⟩ := List.nodup_append.mp h
  rw [sections_append_label, ← groupData_eq_sections hpre] at hg
  have hfresh : ∀ x ∈ l :: labels post, some x ∉ keys (groupData pre) := fun x hx => by
    rw [groupData_eq_sections hpre]
    exact not_mem_keys_sections nofun fun hm => hdisj x hm x hx rfl
  refine ⟨hg, ?_⟩
  rw [hg, labelOrder_eq_labels, labels_append, labels,
    labelTarget_eq_firstKeyed fun hm => hdisj l hm l (List.mem_cons_self ..) rfl,
    firstKeyed_append hfresh, firstKeyed_sections hpost]
  rfl

end Qbee.Data
