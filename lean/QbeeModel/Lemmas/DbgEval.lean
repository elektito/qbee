import QbeeModel.Model.DbgEval
import QbeeModel.Lemmas.ExprSem
import QbeeModel.Lemmas.Fold
/-
  The debugger's evaluator against the machine, one node of the tree at a time: what a result of the debugger claims
  about the result of the program (`Agrees`), and that converting an operand, `dbgApply` and `dbgUn` keep the claim.
-/
namespace Qbee.DbgEval
open Qbee.Gen Qbee.ExprC Qbee.Arith Qbee.ExprSem Qbee.Fold

theorem isInt_iff (t : Ty) : isInt t = true ↔ t = .i ∨ t = .l := by simp [isInt]

theorem intOpB_IntOp {b : BinOp} (h : intOpB b = true) : IntOp b := by
  unfold IntOp
  cases b <;> simp [intOpB] at h ⊢

/-- converting an integral cell to an integral operand type is the range check of that type -/
theorem applyAll_convIf_int {F} (ops : FOps F) (l : Ty) {T : Ty} (hT : T = .i ∨ T = .l) {x : Int}
    (hx : inRange l x = true) (st : List (Cell F)) :
    applyAll ops (convIf l T) (.int l x :: st) =
      if inRange T x then .ok (.int T x :: st) else .trap "INVALID_CELL_VALUE" := by
  unfold convIf
  split
  next h => subst h; rw [hx]; rfl
  next =>
    rw [applyAll_conv, conv_int ops l hT, mk_int ops hT]
    split <;> rfl

/-- `cmpUn` is what the machine's six tests leave for an INTEGER cell -/
theorem unop_cmpUn {F} (ops : FOps F) {u : UnOp} {c v : Int} (h : cmpUn u c = some v) :
    unop ops u (.int .i c) = .ok (.int .i v) := by
  cases u <;> cases h <;> rfl

/-- what a result of the debugger claims about the result `r` of the program, for an expression of static type `ot`:
    a printed value is the cell the program computes, of that type and in its range; an evaluation error is a trap;
    `unsupported` claims nothing -/
def Agrees {F} (ot : Option Ty) : DRes → Res (Cell F) → Prop
  | .val t n, r => ot = some t ∧ inRange t n = true ∧ r = .ok (.int t n)
  | .err, r => ∃ c, r = .trap c
  | .unsupported, _ => True

/-- the operator step on two integral cells of the operand type -/
theorem dbgApply_agrees {F} (ops : FOps F) (op : Nat) (t0 : Ty) {T : Ty} (hT : T = .i ∨ T = .l) (x y : Int) :
    Agrees (some t0) (dbgApply op t0 T x y) (Res.bind (applyAll ops (specOps op) [.int T y, .int T x]) top1) := by
  unfold dbgApply
  split
  next b hb =>
    rw [hb]
    split
    next hi =>
      -- the machine's result and the debugger's are read off the same `foldInt b T x y`
      rw [applyAll_bin, binop_eq_foldInt ops (intOpB_IntOp hi) hT]
      cases foldInt b T x y with
      | lit t' n =>
        dsimp only
        split
        next hg =>
          simp only [Bool.and_eq_true, decide_eq_true_eq] at hg
          obtain ⟨⟨rfl, hr⟩, -⟩ := hg
          exact ⟨rfl, hr, rfl⟩
        next => trivial
      | unfolded => exact ⟨_, rfl⟩
      | host c => trivial
    next => trivial
  next u hb =>
    rw [hb]
    split
    next v hv =>
      split
      next hg =>
        simp only [Bool.and_eq_true, decide_eq_true_eq] at hg
        have hc : binop ops .cmp (.int T x) (.int T y) = .ok (.int .i (cmp3 x y)) := binop_int ops hT .cmp x y
        refine ⟨congrArg some hg.1, hg.2, ?_⟩
        rw [applyAll_bin, hc, bind_ok, applyAll_un, unop_cmpUn ops hv]
        rfl
      next => trivial
    next => trivial
  next => trivial

/-- NEG and NOT: the machine's result and the debugger's are read off the same `foldUnInt neg t x` -/
theorem foldUn_agrees {F} (ops : FOps F) (neg : Bool) {t : Ty} (ht : t = .i ∨ t = .l) (x : Int) :
    Agrees (some t)
      (match foldUnInt neg t x with
        | .lit t' n => if t' = t then .val t n else .unsupported
        | .unfolded => .err
        | .host _ => .unsupported)
      (Res.bind (applyAll ops [.un (if neg then .neg else .not)] [.int t x]) top1) := by
  rw [applyAll_un, unop_eq_foldUnInt ops neg ht]
  unfold foldUnInt
  by_cases h : inRange t (if neg then -x else inot x) = true
  · simp only [h, if_true]
    exact ⟨rfl, h, rfl⟩
  · simp only [h]
    exact ⟨_, rfl⟩

theorem dbgUn_agrees {F} (ops : FOps F) (op : Nat) {t : Ty} (ht : t = .i ∨ t = .l) {x : Int} (hx : inRange t x = true) :
    Agrees (some t) (dbgUn op t x) (Res.bind (applyAll ops (specUn op t) [.int t x]) top1) := by
  by_cases h14 : op = 14
  · subst h14
    exact foldUn_agrees ops true ht x
  by_cases h15 : op = 15
  · subst h15
    exact ⟨rfl, hx, rfl⟩
  by_cases h16 : op = 16
  · subst h16
    have : specUn 16 t = [.un .not] := by rcases ht with rfl | rfl <;> rfl
    rw [this]
    exact foldUn_agrees ops false ht x
  rw [dbgUn, if_neg h14, if_neg h15, if_neg h16]
  trivial

/-- the statement proved by induction over the tree: value case and error case together -/
theorem dbg_eval_sound {F} (ops : FOps F) (e : CE F) : Agrees (ty e.erase) (dbgEval e) (refEval ops e) := by
  induction e with
  | leaf c =>
    cases c with
    | int t n =>
      rw [dbgEval]
      split
      next h =>
        simp only [Bool.and_eq_true] at h
        exact ⟨rfl, h.2, rfl⟩
      next => trivial
    | flt t x => trivial
    | str s => trivial
  | bin op a b iha ihb =>
    -- every guard of `dbgEval` that fails gives `unsupported`, which claims nothing
    rw [dbgEval]
    split
    next l r hta htb =>
      split
      next t0 ht0 =>
        split
        next hg =>
          simp only [Bool.and_eq_true, isInt_iff] at hg
          obtain ⟨⟨hT, -⟩, -⟩ := hg
          rw [← ty_bin_atoms op hta htb] at ht0
          simp only [refEval, CE.erase, hta, htb, ht0]
          rw [hta] at iha
          rw [htb] at ihb
          -- what is left speaks of the operands through `iha` and `ihb` only
          generalize specTy op l r t0 = T at hT ⊢
          generalize dbgEval a = da, refEval ops a = ra at iha ⊢
          generalize dbgEval b = db, refEval ops b = rb at ihb ⊢
          cases da with
          | unsupported => trivial
          | err =>
            obtain ⟨c, rfl⟩ := iha
            cases db with
            | unsupported => trivial
            | err => exact ⟨c, rfl⟩
            | val _ _ => exact ⟨c, rfl⟩
          | val _ x =>
            obtain ⟨h, hx, rfl⟩ := iha
            cases h
            rw [bind_ok, applyAll_convIf_int ops l hT hx]
            cases db with
            | unsupported => trivial
            | err =>
              -- the left operand is converted first: that traps or succeeds, then the right operand traps
              obtain ⟨c, rfl⟩ := ihb
              cases inRange T x <;> exact ⟨_, rfl⟩
            | val _ y =>
              obtain ⟨h, hy, rfl⟩ := ihb
              cases h
              simp only [bind_ok, applyAll_append, applyAll_convIf_int ops r hT hy]
              -- an operand that does not fit the operand type: an error for the debugger, a trap of its conversion
              cases inRange T x
              · exact ⟨_, rfl⟩
              · cases inRange T y
                · exact ⟨_, rfl⟩
                · exact dbgApply_agrees ops op t0 hT x y
        next => trivial
      next => trivial
    next => trivial
  | un op a iha =>
    rw [dbgEval]
    split
    next t hta =>
      split
      next hg =>
        split
        next t0 ht0 =>
          split
          next heq =>
            subst heq
            simp only [Bool.and_eq_true, isInt_iff] at hg
            rw [← ty_un_atom op hta] at ht0
            simp only [refEval, CE.erase, hta, ht0]
            rw [hta] at iha
            generalize dbgEval a = da, refEval ops a = ra at iha ⊢
            cases da with
            | unsupported => trivial
            | err =>
              obtain ⟨c, rfl⟩ := iha
              exact ⟨c, rfl⟩
            | val _ x =>
              obtain ⟨h, hx, rfl⟩ := iha
              cases h
              exact dbgUn_agrees ops op hg.1 hx
          next => trivial
        next => trivial
      next => trivial
    next => trivial

end Qbee.DbgEval
