import QbeeModel.Model.StmtDepth
/-
  The bookkeeping of Model/StmtDepth.lean, one step at a time: what `step` is on a state whose innermost frame is known,
  which marks a cut keeps, and the two facts the statement-level theorems of Props/C10.lean rest on: instructions that
  stay above every mark leave the frames alone (`run_instrs`), and unwinding ends on the module-level frame (`unwind_append`).
-/
namespace Qbee.StmtDepth

theorem run_append (s : St) (a b : List Ev) : run s (a ++ b) = run (run s a) b := List.foldl_append

theorem run_cons (s : St) (e : Ev) (r : List Ev) : run s (e :: r) = run (step s e) r := rfl

theorem run_nil (s : St) : run s [] = s := rfl

theorem step_instr {s : St} {f : Frame} {rest : List Frame} (hf : s.frames = f :: rest) (p q : Nat) :
    step s (.instr p q) = { depth := s.depth - p + q, frames := f.pruned (s.depth - p) :: rest } := by
  simp [step, hf, pruneHead]

theorem step_gosub {s : St} {f : Frame} {rest : List Frame} (hf : s.frames = f :: rest) :
    step s .gosub = { depth := s.depth + 1, frames := { f with marks := s.depth :: f.marks } :: rest } := by
  simp [step, hf]

theorem step_handledNext {s : St} {f : Frame} {rest : List Frame} (hf : s.frames = f :: rest) :
    step s .handledNext = { depth := min s.depth (stmtDepth f), frames := f :: rest } := by
  simp [step, hf]

theorem consec_lt (base : Nat) : ∀ (n i : Nat), i ∈ consec base n → i < base + n + 1
  | 0, _, h => nomatch h
  | n + 1, i, h => by
    rcases List.mem_cons.1 h with rfl | h
    · exact Nat.lt_succ_self _
    · exact Nat.lt_succ_of_lt (consec_lt base n i h)

theorem prune_all {d : Nat} {ms : List Nat} (h : ∀ i ∈ ms, i < d) : prune d ms = ms :=
  List.filter_eq_self.2 fun i hi => decide_eq_true (h i hi)

theorem pruned_eq_self {f : Frame} {d : Nat} (h : ∀ i ∈ f.marks, i < d) : f.pruned d = f := by
  rw [Frame.pruned, prune_all h]

/-- RETURN pops the innermost GOSUB address: its mark goes, the others stay -/
theorem prune_consec_succ (base n : Nat) : prune (base + 1 + n) (consec base (n + 1)) = consec base n := by
  rw [consec, prune, List.filter_cons_of_neg (by simp; omega)]
  exact prune_all fun i hi => by have := consec_lt base n i hi; omega

theorem stmtDepth_consec (f : Frame) (n : Nat) (h : f.marks = consec f.base n) : stmtDepth f = f.base + 1 + n := by
  rw [stmtDepth, h]
  cases n with
  | zero => rfl
  | succ k => show f.base + k + 1 + 1 = _; omega

theorem marks_lt_stmtDepth {f : Frame} {n : Nat} (h : f.marks = consec f.base n) : ∀ i ∈ f.marks, i < stmtDepth f := by
  intro i hi
  have := consec_lt f.base n i (h ▸ hi)
  rw [stmtDepth_consec f n h]
  omega

theorem AtBoundary.marks_lt {s : St} {f : Frame} {n : Nat} (h : AtBoundary s f n) : ∀ i ∈ f.marks, i < s.depth :=
  h.2 ▸ marks_lt_stmtDepth h.1

/-- instructions that stay above a level `L` above every mark of the innermost frame leave the frames alone (no mark is
    pruned) and the stack at least `L` deep -/
theorem run_instrs {f : Frame} {rest : List Frame} {L : Nat} (hm : ∀ i ∈ f.marks, i < L) :
    ∀ (body : List (Nat × Nat)) (s : St), s.frames = f :: rest → L ≤ s.depth → staysAbove L s.depth body = true →
      (run s (body.map fun pq => Ev.instr pq.1 pq.2)).frames = f :: rest ∧
      L ≤ (run s (body.map fun pq => Ev.instr pq.1 pq.2)).depth
  | [], _, hf, hL, _ => ⟨hf, hL⟩
  | (p, q) :: r, s, hf, _, ha => by
    simp only [staysAbove, Bool.and_eq_true, decide_eq_true_eq] at ha
    have hL : L ≤ s.depth - p := Nat.le_sub_of_add_le ha.1
    rw [List.map_cons, run_cons, step_instr hf, pruned_eq_self fun i hi => Nat.lt_of_lt_of_le (hm i hi) hL]
    exact run_instrs hm r _ rfl (Nat.le_trans hL (Nat.le_add_right ..)) ha.2

/-- unwinding never lets the stack grow -/
theorem unwind_le : ∀ (fs : List Frame) (d : Nat), (unwind d fs).1 ≤ d
  | [], d | [_], d => Nat.le_refl d
  | f :: g :: rest, d => Nat.le_trans (unwind_le (g :: rest) (min d f.base)) (Nat.min_le_left ..)

theorem unwind_cons (d : Nat) (f : Frame) {fs : List Frame} (h : fs ≠ []) :
    unwind d (f :: fs) = unwind (min d f.base) fs := by
  cases fs with
  | nil => exact absurd rfl h
  | cons => rfl

/-- ... it ends with the module-level frame alone, and not below a level every frame that is left lies above -/
theorem unwind_append (L : Nat) (m : Frame) : ∀ (pre : List Frame) (d : Nat), L ≤ d → (∀ f ∈ pre, L ≤ f.base) →
    ∃ d', unwind d (pre ++ [m]) = (d', [m]) ∧ L ≤ d'
  | [], d, hd, _ => ⟨d, rfl, hd⟩
  | f :: pre, d, hd, hb => by
    rw [List.cons_append, unwind_cons d f (by simp)]
    exact unwind_append L m pre _ (Nat.le_min.2 ⟨hd, hb f (.head _)⟩) fun g hg => hb g (.tail _ hg)

end Qbee.StmtDepth
