/-
  Checkers for generated tables.  A fact about a finite table is proved by letting the kernel evaluate a Boolean
  checker (`by decide +kernel`); the library's decision procedures for `Nodup` and `lookup` are quadratic, these are not.
-/
namespace Qbee.Tables

/-- `l` is duplicate-free and shares no element with `prev`, the elements already passed.  `seen` is the set of
    their keys `h y` as a bit set: an element with a new key is new, and only one whose key has been seen is looked
    up in `prev`.  So any `h` is sound, and one that seldom collides makes the check linear.
    The kernel runs this fast: it computes `|||`, `<<<` and `testBit` on literals with GMP, the accumulator `seen`
    stays a literal, and `prev` is not evaluated unless a key collides. -/
def distinctVia [BEq α] (h : α → Nat) : List α → List α → Nat → Bool
  | [], _, _ => true
  | x :: r, prev, seen =>
    (!seen.testBit (h x) || !prev.contains x) && distinctVia h r (x :: prev) (seen ||| 1 <<< h x)

theorem distinctVia_spec [BEq α] [LawfulBEq α] (h : α → Nat) (l prev : List α) (seen : Nat)
    (hseen : ∀ y ∈ prev, seen.testBit (h y)) (hd : distinctVia h l prev seen = true) : (∀ x ∈ l, x ∉ prev) ∧ l.Nodup := by
  induction l generalizing prev seen with
  | nil => exact ⟨nofun, .nil⟩
  | cons x r ih =>
    simp only [distinctVia, Bool.and_eq_true, Bool.or_eq_true, Bool.not_eq_true', List.contains_eq_mem,
      decide_eq_false_iff_not] at hd
    have hx : x ∉ prev := fun hmem => by simpa [hseen x hmem, hmem] using hd.1
    have hseen' : ∀ y ∈ x :: prev, (seen ||| 1 <<< h x).testBit (h y) := fun y hy => by
      rw [Nat.testBit_or, Nat.one_shiftLeft, Nat.testBit_two_pow]
      rcases List.mem_cons.1 hy with rfl | hy
      · simp
      · simp [hseen y hy]
    have ⟨hr, hnd⟩ := ih (x :: prev) _ hseen' hd.2
    exact ⟨List.forall_mem_cons.2 ⟨hx, fun z hz hp => hr z hz (List.mem_cons_of_mem _ hp)⟩,
      List.nodup_cons.2 ⟨fun hxr => hr x hxr List.mem_cons_self, hnd⟩⟩

theorem nodup_of_distinctVia [BEq α] [LawfulBEq α] (h : α → Nat) (l : List α)
    (hl : distinctVia h l [] 0 = true) : l.Nodup :=
  (distinctVia_spec h l [] 0 nofun hl).2

theorem lookup_map_of_nodup [BEq κ] [LawfulBEq κ] (k : α → κ) (v : α → β) (l : List α) (hnd : (l.map k).Nodup) :
    ∀ e ∈ l, (l.map fun e => (k e, v e)).lookup (k e) = some (v e) := by
  intro e he
  induction l with
  | nil => cases he
  | cons a r ih =>
    rw [List.map_cons, List.nodup_cons] at hnd
    rw [List.map_cons, List.lookup_cons]
    rcases List.mem_cons.1 he with rfl | he
    · simp
    · have : (k e == k a) = false := beq_eq_false_iff_ne.2 fun heq => hnd.1 (heq ▸ List.mem_map_of_mem he)
      rw [this]
      exact ih hnd.2 he

end Qbee.Tables
