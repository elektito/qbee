import QbeeModel.Model.Bytes
namespace Qbee.Bytes

theorem be_length (k n : Nat) : (be k n).length = k := by
  induction k generalizing n with
  | zero => rfl
  | succ k ih => simp [be, ih]

theorem be_allBytes (k n : Nat) : AllBytes (be k n) := by
  induction k generalizing n with
  | zero => nofun
  | succ k ih => exact List.forall_mem_cons.2 ⟨Nat.mod_lt _ (by decide), ih _⟩

theorem val_be (k n : Nat) (h : n < 256 ^ k) : val (be k n) = n := by
  induction k generalizing n with
  | zero => exact (Nat.lt_one_iff.1 h).symm
  | succ k ih =>
    have hpos : 0 < 256 ^ k := Nat.pow_pos (by decide)
    have h1 : n / 256 ^ k < 256 := Nat.div_lt_of_lt_mul (by rwa [Nat.pow_succ] at h)
    simp only [be, val, be_length, Nat.mod_eq_of_lt h1, ih _ (Nat.mod_lt _ hpos)]
    rw [Nat.mul_comm]; exact Nat.div_add_mod n (256 ^ k)

theorem val_lt (l : List Nat) (h : AllBytes l) : val l < 256 ^ l.length := by
  induction l with
  | nil => simp [val]
  | cons b r ih =>
    have ⟨hb, hr⟩ := List.forall_mem_cons.1 h
    have := ih hr
    have : (b + 1) * 256 ^ r.length ≤ 256 * 256 ^ r.length := Nat.mul_le_mul_right _ hb
    rw [Nat.add_mul] at this
    simp only [val, List.length_cons, Nat.pow_succ]
    omega

theorem be_val (l : List Nat) (h : AllBytes l) : be l.length (val l) = l := by
  induction l with
  | nil => rfl
  | cons b r ih =>
    have ⟨hb, hr⟩ := List.forall_mem_cons.1 h
    have hlt := val_lt r hr
    have hpos : 0 < 256 ^ r.length := Nat.pow_pos (by decide)
    rw [List.length_cons, val, be, Nat.mul_comm, Nat.mul_add_div hpos, Nat.mul_add_mod, Nat.div_eq_of_lt hlt,
      Nat.mod_eq_of_lt hlt, Nat.add_zero, Nat.mod_eq_of_lt hb, ih hr]

theorem ofSigned_natCast (k n : Nat) : ofSigned k (n : Int) = n := by simp [ofSigned]

theorem ofSigned_spec {k : Nat} {i : Int} (h : InS k i) :
    ofSigned k i < 256 ^ k ∧ toSigned k (ofSigned k i) = i := by
  -- zero bytes hold no value.  The range `256 ^ j * 256` has the half `256 ^ j * 128`: no division is left; and with the
  -- natural number named that `i` (or `i` + range) is, no `toNat` either (dear in `omega`): each sign is linear arithmetic
  unfold InS at h
  obtain _ | k := k
  · omega
  unfold toSigned ofSigned
  rw [Nat.pow_succ, Nat.mul_div_assoc _ (by decide : 2 ∣ 256)] at *
  by_cases hi : 0 ≤ i
  · obtain ⟨n, rfl⟩ := Int.eq_ofNat_of_zero_le hi
    rw [if_pos hi, Int.toNat_natCast, if_pos (by omega)]
    omega
  · obtain ⟨n, hn⟩ := Int.eq_ofNat_of_zero_le (a := i + (256 ^ k * 256 : Nat)) (by omega)
    rw [if_neg hi, hn, Int.toNat_natCast, if_neg (by omega)]
    omega

/-- a signed value in range survives '>h' / '>i' packing and unpacking -/
theorem toSigned_val_be {k : Nat} {i : Int} (h : InS k i) :
    toSigned k (val (be k (ofSigned k i))) = i := by
  have ⟨hlt, hi⟩ := ofSigned_spec h
  rw [val_be k _ hlt, hi]

end Qbee.Bytes
