import QbeeModel.Model.DebugMap
namespace Qbee.DebugMap

theorem WB_le {lo hi : Nat} {evs : List Ev} (h : WB lo hi evs) : lo ≤ hi := by
  induction h with
  | nil lo hi h => exact h
  | wrap id s e lo hi inner h1 h2 _ ih => exact Nat.le_trans h1 (Nat.le_trans ih h2)
  | append lo mid hi a b _ _ iha ihb => exact Nat.le_trans iha ihb

theorem Within.mono {lo hi lo' hi' : Nat} {rs : List Rec} (h : Within lo hi rs) (hlo : lo' ≤ lo) (hhi : hi ≤ hi') :
    Within lo' hi' rs := fun r hr => ⟨Nat.le_trans hlo (h r hr).1, (h r hr).2.1, Nat.le_trans (h r hr).2.2 hhi⟩

theorem Within.append {lo hi : Nat} {a b : List Rec} (ha : Within lo hi a) (hb : Within lo hi b) :
    Within lo hi (a ++ b) := List.forall_mem_append.2 ⟨ha, hb⟩

/-- the collector emits a record when its node ends, so in its output an earlier record lies before a later one or
    inside it: the only separation needed to join two laminar lists -/
theorem Laminar.append {a b : List Rec} (ha : Laminar a) (hb : Laminar b)
    (hab : ∀ r1 ∈ a, ∀ r2 ∈ b, r1.e ≤ r2.s ∨ (r2.s ≤ r1.s ∧ r1.e ≤ r2.e)) : Laminar (a ++ b) := by
  intro r1 h1 r2 h2
  rcases List.mem_append.1 h1 with h1 | h1 <;> rcases List.mem_append.1 h2 with h2 | h2
  · exact ha r1 h1 r2 h2
  · exact (hab r1 h1 r2 h2).imp_right fun h => .inr (.inl h)
  · exact .inr ((hab r2 h2 r1 h1).imp_right .inr)
  · exact hb r1 h1 r2 h2

/-- the collector turns a well-bracketed stream into records, whatever surrounds it; the records are
    laminar and lie inside the span of the stream -/
theorem collect_WB {lo hi : Nat} {evs : List Ev} (h : WB lo hi evs) :
    ∃ rs, (∀ rest st acc, collect (evs ++ rest) st acc = collect rest st (acc ++ rs)) ∧ Laminar rs ∧ Within lo hi rs := by
  induction h with
  | nil lo hi h => exact ⟨[], by simp, nofun, nofun⟩
  | wrap id s e lo hi inner h1 h2 hin ih =>
    obtain ⟨rs, hc, hl, hw⟩ := ih
    have hr : Within lo hi [⟨id, s, e⟩] := List.forall_mem_singleton.2 ⟨h1, WB_le hin, h2⟩
    refine ⟨rs ++ [⟨id, s, e⟩], ?_, ?_, (hw.mono h1 h2).append hr⟩
    · intro rest st acc
      simp [collect, hc]
    · refine hl.append (by simp [Laminar]) fun r1 hr1 r2 hr2 => ?_
      obtain rfl := List.mem_singleton.1 hr2
      exact .inr ⟨(hw r1 hr1).1, (hw r1 hr1).2.2⟩
  | append lo mid hi a b ha hb iha ihb =>
    obtain ⟨ra, hca, hla, hwa⟩ := iha
    obtain ⟨rb, hcb, hlb, hwb⟩ := ihb
    refine ⟨ra ++ rb, ?_, ?_, (hwa.mono (Nat.le_refl _) (WB_le hb)).append (hwb.mono (WB_le ha) (Nat.le_refl _))⟩
    · intro rest st acc
      rw [List.append_assoc, hca, hcb, List.append_assoc]
    · exact hla.append hlb fun r1 h1 r2 h2 => .inl (Nat.le_trans (hwa r1 h1).2.2 (hwb r2 h2).1)

/-- what the fold of `findStmt` holds after the records `seen`: nothing if none of them contains the address, otherwise
    one of them that contains it and is no wider than any of them that does -/
def Best (addr : Nat) (seen : List Rec) : Option Rec → Prop
  | none => ∀ x ∈ seen, ¬ Contains x addr
  | some r => r ∈ seen ∧ Contains r addr ∧ ∀ x ∈ seen, Contains x addr → r.e - r.s ≤ x.e - x.s

theorem Best.step {addr : Nat} {seen : List Rec} {b : Option Rec} (h : Best addr seen b) (x : Rec) :
    Best addr (seen ++ [x]) (better addr b x) := by
  have snoc {p : Rec → Prop} (hs : ∀ y ∈ seen, p y) (hx : p x) : ∀ y ∈ seen ++ [x], p y :=
    List.forall_mem_append.2 ⟨hs, List.forall_mem_singleton.2 hx⟩
  unfold better
  split
  next hx =>
    cases b with
    | none => exact ⟨List.mem_concat_self, hx, snoc (fun y hy hcy => absurd hcy (h y hy)) fun _ => Nat.le_refl _⟩
    | some b =>
      obtain ⟨hb, hcb, hmin⟩ := h
      dsimp only
      split
      next hlt =>
        exact ⟨List.mem_concat_self, hx,
          snoc (fun y hy hcy => Nat.le_trans (Nat.le_of_lt hlt) (hmin y hy hcy)) fun _ => Nat.le_refl _⟩
      next hlt => exact ⟨List.mem_append_left _ hb, hcb, snoc hmin fun _ => Nat.le_of_not_lt hlt⟩
  next hx =>
    cases b with
    | none => exact snoc h hx
    | some b => exact ⟨List.mem_append_left _ h.1, h.2.1, snoc h.2.2 fun hcx => absurd hcx hx⟩

theorem Best.foldl {addr : Nat} (rs : List Rec) {seen : List Rec} {b : Option Rec} (h : Best addr seen b) :
    Best addr (seen ++ rs) (rs.foldl (better addr) b) := by
  induction rs generalizing seen b with
  | nil => simpa using h
  | cons x rs ih => simpa using ih (h.step x)

theorem findStmt_best (rs : List Rec) (addr : Nat) : Best addr rs (findStmt rs addr) :=
  Best.foldl (seen := []) rs (b := none) nofun

theorem findStmt_none {rs : List Rec} {addr : Nat} (h : findStmt rs addr = none) : ∀ x ∈ rs, ¬ Contains x addr := by
  have := findStmt_best rs addr
  rwa [h] at this

theorem findStmt_some {rs : List Rec} {addr : Nat} {r : Rec} (h : findStmt rs addr = some r) :
    r ∈ rs ∧ Contains r addr ∧ ∀ x ∈ rs, Contains x addr → r.e - r.s ≤ x.e - x.s := by
  have := findStmt_best rs addr
  rwa [h] at this

end Qbee.DebugMap
