import QbeeModel.Model.Input
/- What the statements of Props/C18.lean are written in (`callsOf`, `leftOf`, `retryCalls`), and what `convAll` and `runWith`
   do in those terms. -/
namespace Qbee.Input
open Qbee.NumFmt

def callsOf : RunRes → List Call
  | .done c _ _ => c
  | .starved c _ => c
  | .gray c => c
  | .devErr c => c

def leftOf : RunRes → List Cell
  | .done _ _ l => l
  | .starved _ l => l
  | _ => []

theorem convAll_inv {ps : List (Str × Nat)} {acc : List Cell} :
    (∀ p, convAll ps acc = .accepted p →
      ∃ cs, p = acc ++ cs ∧ ps.map (fun x => convField x.2 x.1) = cs.map FieldRes.ok) ∧
    (∀ l, convAll ps acc = .rejected l → l = []) := by
  -- no pair left; else the first pair, by what `convField` answers: `.ok c`, `.reject`, `.gray`, `.devErr`
  fun_induction convAll ps acc with
  | case1 acc => exact ⟨fun p h => ⟨[], by simpa using h.symm⟩, nofun⟩
  | case2 f ty r acc c hc ih =>
    refine ⟨fun p h => ?_, ih.2⟩
    obtain ⟨cs, rfl, h2⟩ := ih.1 p h
    exact ⟨c :: cs, by simp, by simp [hc, h2]⟩
  | case3 => exact ⟨nofun, fun l h => by cases h; rfl⟩
  | case4 => exact ⟨nofun, nofun⟩
  | case5 => exact ⟨nofun, nofun⟩

theorem convAll_append_of_ok (pre post : List (Str × Nat)) (acc : List Cell)
    (h : ∀ x ∈ pre, ∃ c, convField x.2 x.1 = .ok c) : ∃ cs, convAll (pre ++ post) acc = convAll post (acc ++ cs) := by
  induction pre generalizing acc with
  | nil => exact ⟨[], by simp⟩
  | cons x pre ih =>
    obtain ⟨⟨c, hc⟩, h'⟩ := List.forall_mem_cons.mp h
    obtain ⟨cs, hcs⟩ := ih (acc ++ [c]) h'
    exact ⟨c :: cs, by simp [convAll, hc, hcs]⟩

theorem convAll_reject_at : ∀ (pre : List (Str × Nat)) (f : Str) (ty : Nat) (post : List (Str × Nat)) (acc : List Cell),
    (∀ x ∈ pre, ∃ c, convField x.2 x.1 = .ok c) → convField ty f = .reject →
    convAll (pre ++ (f, ty) :: post) acc = .rejected [] := by
  intro pre f ty post acc hpre h
  obtain ⟨cs, hcs⟩ := convAll_append_of_ok pre ((f, ty) :: post) acc hpre
  rw [hcs, convAll, h]

theorem runWith_calls_prefix (t : List Nat → Str → LineRes) (r : Req) (lines : List Str) (calls : List Call)
    (left : List Cell) : ∃ more, callsOf (runWith t r lines calls left) = calls ++ promptCalls r ++ more := by
  -- only a refused line (the third of five cases) goes round the loop again
  fun_induction runWith t r lines calls left with
  | case3 _ _ _ _ _ _ ih => obtain ⟨more, h⟩ := ih; exact ⟨.print redo :: promptCalls r ++ more, by rw [h]; simp⟩
  | _ => exact ⟨[], by simp [callsOf]⟩

def retryCalls (r : Req) : Nat → List Call
  | 0 => []
  | n + 1 => promptCalls r ++ [.print redo] ++ retryCalls r n

theorem runWith_retries {t : List Nat → Str → LineRes} {r : Req} {good : Str} {p : List Cell} {bad : List Str}
    (hg : t r.tys good = .accepted p) (rest : List Str) (hb : ∀ b ∈ bad, t r.tys b = .rejected [])
    (calls : List Call) (left : List Cell) :
    runWith t r (bad ++ good :: rest) calls left = .done (calls ++ retryCalls r bad.length ++ promptCalls r) p left := by
  induction bad generalizing calls with
  | nil => simp [runWith, hg, retryCalls]
  | cons b bs ih =>
    obtain ⟨hl, hb'⟩ := List.forall_mem_cons.mp hb
    simp only [List.cons_append, runWith, hl, List.append_nil]
    rw [ih hb']
    simp [retryCalls, List.append_assoc]

theorem takeInts_map (tys : List Nat) (rest : List Arg) :
    takeInts tys.length (tys.map (fun (t : Nat) => Arg.int (t : Int)) ++ rest) = some (tys, rest) := by
  induction tys with
  | nil => rfl
  | cons t r ih => simp [takeInts, ih]

end Qbee.Input
