import QbeeModel.Model.Instr
import QbeeModel.Lemmas.Bytes
namespace Qbee.Instr
open Qbee.Bytes Qbee.Gen

theorem encOperand_length (o : Operand) : (encOperand o).length = kindSize o.kind := by
  cases o <;> exact be_length _ _

theorem ofRaw_encOperand (o : Operand) (h : o.WF) : ofRaw o.kind (val (encOperand o)) = o := by
  cases o with
  | i16 i => exact congrArg Operand.i16 (toSigned_val_be h)
  | i32 i => exact congrArg Operand.i32 (toSigned_val_be h)
  | _ => exact congrArg _ (val_be _ _ h)

theorem decOperand_append (k : OpKind) (a rest : List Nat) (h : a.length = kindSize k) :
    decOperand k (a ++ rest) = some (ofRaw k (val a), rest) := by
  simp [decOperand, ← h]

theorem decOperand_encOperand (o : Operand) (h : o.WF) (rest : List Nat) :
    decOperand o.kind (encOperand o ++ rest) = some (o, rest) := by
  rw [decOperand_append _ _ _ (encOperand_length o), ofRaw_encOperand o h]

theorem decOperands_enc (os : List Operand) (h : ∀ o ∈ os, o.WF) (rest : List Nat) :
    decOperands (os.map Operand.kind) ((os.map encOperand).flatten ++ rest) = some (os, rest) := by
  induction os with
  | nil => rfl
  | cons o r ih =>
    have ⟨ho, hr⟩ := List.forall_mem_cons.1 h
    simp only [List.map_cons, List.flatten_cons, List.append_assoc, decOperands,
      decOperand_encOperand o ho, ih hr]

theorem decode_encode_lem (i : Instr) (h : WFInstr i) (rest : List Nat) :
    decode (encode i ++ rest) = some (i, rest) := by
  simp only [encode, List.cons_append, decode, h.kinds, decOperands_enc i.ops h.ops rest]

theorem encodeAll_cons (i : Instr) (r : List Instr) : encodeAll (i :: r) = encode i ++ encodeAll r := rfl

theorem decodeAll_encode_append (i : Instr) (h : WFInstr i) (f : Nat) (rest : List Nat) :
    decodeAll (f + 1) (encode i ++ rest) = (decodeAll f rest).map (i :: ·) := by
  rw [decodeAll.eq_3 _ _ (by simp [encode]), decode_encode_lem i h]

/-- one unit of fuel per instruction is enough -/
theorem decodeAll_encodeAll_fuel (is : List Instr) (f : Nat) (h : ∀ i ∈ is, WFInstr i) (hf : is.length ≤ f) :
    decodeAll f (encodeAll is) = some is := by
  induction is generalizing f with
  | nil => cases f <;> rfl
  | cons i r ih =>
    obtain _ | f := f
    · cases hf
    have ⟨hi, hr⟩ := List.forall_mem_cons.1 h
    rw [encodeAll_cons, decodeAll_encode_append i hi, ih f hr (Nat.le_of_succ_le_succ hf)]
    rfl

theorem length_le_encodeAll (is : List Instr) : is.length ≤ (encodeAll is).length := by
  induction is with
  | nil => exact Nat.le_refl 0
  | cons i r ih => simp only [encodeAll_cons, encode, List.length_append, List.length_cons]; omega

end Qbee.Instr
