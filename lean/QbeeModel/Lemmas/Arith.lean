import QbeeModel.Model.Arith
/-
  What the machine's instructions do on INTEGER / LONG cells: the facts C01, C02, C07 and C13 share.
  (`simp [binop]` is slow - the definition is one large `match` - so proofs go through `binop_int`.)
-/
namespace Qbee.Arith
open Qbee.Gen

/-- boxing an integer at an integral type is the range check and nothing else -/
theorem mk_int {F} (ops : FOps F) {t : Ty} (ht : t = .i ∨ t = .l) (n : Int) :
    mk ops t (.int n) = if inRange t n then .ok (.int t n) else .trap "INVALID_CELL_VALUE" := by
  rcases ht with rfl | rfl <;> rfl

/-- the binary instructions on two cells of one integral type: the type checks pass, what is left is the arithmetic -/
theorem binop_int {F} (ops : FOps F) {t : Ty} (ht : t = .i ∨ t = .l) (op : BinOp) (a b : Int) :
    binop ops op (.int t a) (.int t b) = match op with
      | .cmp => .ok (.int .i (if a = b then 0 else if a < b then -1 else 1))
      | .add => mk ops t (.int (a + b))
      | .sub => mk ops t (.int (a - b))
      | .mul => mk ops t (.int (a * b))
      | .div => if b = 0 then .trap "DIVISION_BY_ZERO" else mk ops .s (.flt (ops.div (ops.ofInt a) (ops.ofInt b)))
      | .idiv => if b = 0 then .trap "DIVISION_BY_ZERO" else mk ops t (.int (qbIDiv a b))
      | .mod => if b = 0 then .trap "DIVISION_BY_ZERO" else mk ops t (.int (qbMod a b))
      | .and => mk ops t (.int (iand a b))
      | .or => mk ops t (.int (ior a b))
      | .xor => mk ops t (.int (ixor a b))
      | .eqv => mk ops t (.int (inot (ixor a b)))
      | .imp => mk ops t (.int (ior (inot a) b))
      | .exp => if 0 ≤ b then mk ops t (.int (ipow a b.toNat))
                else if a = 0 then .trap "DIVISION_BY_ZERO" else mk ops t (.int (negPowRound a b)) := by
  have hi : isIntTy t = true := by rcases ht with rfl | rfl <;> rfl
  have hn : isNumTy t = true := by rcases ht with rfl | rfl <;> rfl
  cases op <;> (unfold binop; simp [Cell.ty, hi, hn])

/-- a conversion between integral types re-boxes the value -/
theorem conv_int {F} (ops : FOps F) (src : Ty) {dst : Ty} (hd : dst = .i ∨ dst = .l) (a : Int) :
    conv ops src dst (.int src a) = mk ops dst (.int a) := by
  rcases hd with rfl | rfl <;> simp [conv, Cell.ty, isIntTy]

end Qbee.Arith
