import QbeeModel.Model.Src
/-
  The reference semantics of Model/Src.lean does not depend on its fuel: a run that ends with some fuel ends the same way with
  more.  (`none` therefore means "out of fuel" and nothing else; the correspondence of C01 discards such runs.)
  The result with less fuel is `Le` the result with more.  Around its calls, the body of each of the six functions is built from
  `if` and `match` on values that do not depend on the fuel and from "if this call has a result, go on with it" (`Le.bind`), all
  of which respect `Le`: a function has the property if the calls it makes have it, and an induction on the fuel orders these.
-/
namespace Qbee.Src

/-- `a` is out of fuel, or `b` is the same result -/
def Le (a b : Option Res) : Prop := ∀ res, a = some res → b = some res

theorem Le.refl {a : Option Res} : Le a a := fun _ h => h

theorem Le.bot {b : Option Res} : Le none b := fun _ h => nomatch h

theorem Le.ite {c : Prop} [Decidable c] {a a' b b' : Option Res} (h₁ : Le a a') (h₂ : Le b b') :
    Le (if c then a else b) (if c then a' else b') := by
  split
  · exact h₁
  · exact h₂

/-- the shape in which the six functions go on with the result of a call -/
theorem Le.bind {a b : Option Res} {f g : Res → Option Res} (hab : Le a b) (hfg : ∀ r, Le (f r) (g r)) :
    Le (match (generalizing := false) a with | none => none | some r => f r)
      (match (generalizing := false) b with | none => none | some r => g r) := by
  intro res h
  cases a with
  | none => cases h
  | some r => rw [hab r rfl]; exact hfg r res h

/-- one more unit of fuel changes no result of the functions that `exec` calls with its own fuel -/
structure Mono (procs : List Proc) (n : Nat) : Prop where
  list : ∀ {env out l}, Le (execList procs n env out l) (execList procs (n + 1) env out l)
  sel : ∀ {env out v cs d}, Le (selectRun procs n env out v cs d) (selectRun procs (n + 1) env out v cs d)
  whl : ∀ {env out c b}, Le (loopWhile procs n env out c b) (loopWhile procs (n + 1) env out c b)
  dol : ∀ {env out pk pre qk post b}, Le (loopDo procs n env out pk pre qk post b) (loopDo procs (n + 1) env out pk pre qk post b)
  forl : ∀ {env out v lim st b}, Le (loopFor procs n env out v lim st b) (loopFor procs (n + 1) env out v lim st b)

theorem Mono.stmt {procs : List Proc} {n : Nat} (m : Mono procs n) {env : Env} {out : List Int} {s : Stmt} :
    Le (exec procs n env out s) (exec procs (n + 1) env out s) := by
  cases s with
  | ifElse c t e =>
    unfold exec
    cases eval env c with
    | ok x => exact .ite m.list m.list
    | error c => exact .refl
  | «while» c b => unfold exec; exact m.whl
  | doLoop pk pre qk post b => unfold exec; exact m.dol
  | «for» v a b st body =>
    unfold exec
    split
    · exact m.forl
    all_goals exact .refl
  | select e cs d =>
    unfold exec
    cases eval env e with
    | ok v => exact m.sel
    | error c => exact .refl
  | call p args =>
    unfold exec
    split
    · exact .refl
    · refine .ite .refl ?_
      split
      · exact .refl
      · exact .bind m.list fun _ => .refl
  -- `simp only` rather than `unfold`: it generates the equation lemmas of `exec` in this module, where Props/C01.lean finds
  -- them; otherwise each theorem there that unfolds `exec` derives them again
  | _ => simp only [exec]; exact .refl

theorem mono (procs : List Proc) (n : Nat) : Mono procs n := by
  induction n with
  | zero =>
    have list {env out l} : Le (execList procs 0 env out l) (execList procs 1 env out l) := by
      cases l with
      | nil => rw [execList, execList]; exact .refl
      | cons s r => rw [execList]; exact .bot
    exact
      { list
        sel := by
          intro env out v cs d
          match cs with
          | [] => rw [selectRun, selectRun]; exact list
          | (cl, body) :: r =>
            rw [selectRun, selectRun]
            split
            · exact list
            · exact .bot
            · exact .refl
        whl := by intros; rw [loopWhile]; exact .bot
        dol := by intros; rw [loopDo]; exact .bot
        forl := by intros; rw [loopFor]; exact .bot }
  | succ n m =>
    have list {env out l} : Le (execList procs (n + 1) env out l) (execList procs (n + 1 + 1) env out l) := by
      cases l with
      | nil => rw [execList, execList]; exact .refl
      | cons s r =>
        rw [execList, execList]
        exact .bind m.stmt fun _ => .ite m.list .refl
    exact
      { list
        sel := by
          intro env out v cs d
          match cs with
          | [] => rw [selectRun, selectRun]; exact list
          | (cl, body) :: r =>
            rw [selectRun, selectRun]
            split
            · exact list
            · exact m.sel
            · exact .refl
        whl := by
          intros
          rw [loopWhile, loopWhile]
          split
          · exact .refl
          · exact .ite .refl (.bind m.list fun _ => .ite m.whl .refl)
        dol := by
          intros
          rw [loopDo, loopDo]
          split
          · exact .refl
          · exact .refl
          · refine .bind m.list fun _ => .ite .refl (.ite .refl ?_)
            dsimp only   -- the `let again := ..` in the definition
            split
            · exact .refl
            · exact .refl
            · exact m.dol
        forl := by
          intros
          rw [loopFor, loopFor]
          exact .ite .refl (.bind m.list fun _ => .ite .refl (.ite .refl (.ite m.forl .refl))) }

theorem execList_fuel_add {procs : List Proc} {fuel : Nat} {env : Env} {out : List Int} {l : List Stmt} {res : Res} (k : Nat)
    (h : execList procs fuel env out l = some res) : execList procs (fuel + k) env out l = some res := by
  induction k with
  | zero => exact h
  | succ k ih => exact (mono procs (fuel + k)).list _ ih

end Qbee.Src
