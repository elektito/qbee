import QbeeModel.Model.Tick
/-
  `_trap` and the end-of-code check answer a state whenever they are given one, so `tick` lets nothing escape but the
  exception of a `host` instruction (`tick_st_or_host`); what `tick` does on a trap while ON ERROR GOTO is armed, at module
  level or in a procedure (`armed_dispatch_unwind`).
-/
namespace Qbee.Tick

/-- `_trap` always returns: it answers a state, and the interrupt flag is not among the fields it writes -/
theorem trapDispatch_st (s : St) (code : Nat) (stmt : Option (Nat × Nat)) (u : Option Nat) :
    ∃ s', trapDispatch s code stmt u = .st s' ∧ s'.interrupt = s.interrupt := by
  unfold trapDispatch
  -- once the handler state and `stmt` are known the definition computes, to a record update of `s`
  cases s.active <;> cases s.target <;> cases stmt <;> exact ⟨_, rfl, rfl⟩

theorem endCheck_of_lt {codeLen : Nat} {s : St} (h : s.pc < codeLen) : endCheck codeLen (.st s) = .st s := by
  simp [endCheck, Nat.not_le_of_lt h]

/-- every branch of `tick` but the one of a `host` instruction is `_trap`, a state, or the end-of-code check of one of them -/
theorem tick_st_or_host (codeLen : Nat) (s : St) (ik : IK) (stmt : Option (Nat × Nat)) (u : Option Nat) :
    (∃ s', tick codeLen s ik stmt u = .st s') ∨ ∃ c sz, ik = .host c sz := by
  have trap (s code stmt) : ∃ s', trapDispatch s code stmt u = .st s' :=
    (trapDispatch_st s code stmt u).imp fun _ => And.left
  have chk {o} : (∃ s, o = .st s) → ∃ s', endCheck codeLen o = .st s' := by
    rintro ⟨s, rfl⟩
    simp only [endCheck]
    split <;> exact ⟨_, rfl⟩
  have cond {p : Prop} [Decidable p] {x y : Out} (hx : ∃ s, x = .st s) (hy : ∃ s, y = .st s) :
      ∃ s, (if p then x else y) = .st s := by
    split <;> assumption
  by_cases hi : s.interrupt = true
  · rw [tick, if_pos hi]
    exact .inl (trap ..)
  · rw [tick, if_neg hi]
    cases ik with
    | host c sz => exact .inr ⟨c, sz, rfl⟩
    | plain | halt => exact .inl (chk ⟨_, rfl⟩)
    | traps => exact .inl (chk (trap ..))
    | invalidOp =>
      obtain ⟨s', h⟩ := trap { s with prevPc := s.pc } INVALID_OP_CODE stmt
      simp only [h]
      exact .inl ⟨_, rfl⟩
    | errhand t sz => exact .inl (cond (chk (trap ..)) (cond (chk (trap ..)) (chk ⟨_, rfl⟩)))
    | errres | errresn =>
      cases stmt
      · exact .inl (chk (trap ..))
      · exact .inl (chk ⟨_, rfl⟩)

/-- a trap with ON ERROR GOTO armed and the handler not running, at module level (`u = none`) or in a procedure -/
theorem armed_dispatch_unwind {codeLen : Nat} {s : St} {a : Nat} (code sz : Nat) (stmt : Option (Nat × Nat)) (u : Option Nat)
    (hi : s.interrupt = false) (ha : s.target = .addr a) (hna : s.active = false) (hlen : a < codeLen) :
    tick codeLen s (.traps code sz) stmt u =
      .st { s with pc := a, prevPc := s.pc, active := true, lastTrap := some code, trappedAddr := u.getD s.pc } := by
  simp [tick, hi, trapDispatch, ha, hna, endCheck_of_lt, hlen]

end Qbee.Tick
