import QbeeModel.Model.Using
/- What the statements of Props/C19.lean are written in (`signOf`, `Fits`, `isSpecial`, `partText`, `expected`), and what
   `renderCore`, `scan` and `fmtLoop` do in those terms. -/
namespace Qbee.Using

/-- the sign character format_number puts at the sign position -/
def signOf (sp : NumSpec) (neg : Bool) : Char :=
  if neg then '-' else if sp.signChar = some '+' then '+' else ' '

/-- a value fits its field: digits (with point and separators) plus the sign position -/
def Fits (sp : NumSpec) (body : Str) : Prop := body.length + 1 ≤ sp.width

def isSpecial (c : Char) : Bool := c = '#' || c = '+' || c = '-' || c = '&' || c = '!' || c = '_'

/-- the number text with the sign at the field's sign position: `r0` of `renderCore` -/
def withSign (sp : NumSpec) (neg : Bool) (body : Str) : Str :=
  if !sp.signEnd then signOf sp neg :: body else body ++ [signOf sp neg]

@[simp] theorem length_withSign (sp : NumSpec) (neg : Bool) (body : Str) :
    (withSign sp neg body).length = body.length + 1 := by
  unfold withSign; split <;> simp

/-- what format_number returns, by cases; in the last the blank sign is trimmed off and the digits alone are measured again -/
theorem renderCore_eq (sp : NumSpec) (neg : Bool) (body : Str) : renderCore sp neg body =
    if body.length + 1 ≤ sp.width then blanks (sp.width - (body.length + 1)) ++ withSign sp neg body
    else if signOf sp neg ≠ ' ' then '%' :: withSign sp neg body
    else if sp.width < body.length then '%' :: body else body := by
  unfold renderCore
  extract_lets _ sign r0 r1 r2
  have hsign : sign = signOf sp neg := rfl
  have hr0 : r0 = withSign sp neg body := rfl
  -- also when nothing is added: `blanks 0 = []`
  have h1 : r1 = blanks (sp.width - (body.length + 1)) ++ withSign sp neg body := by
    simp only [r1, hr0, length_withSign]; split
    · rfl
    · next h => rw [Nat.sub_eq_zero_of_le (Nat.le_of_not_lt h)]; rfl
  by_cases hfit : body.length + 1 ≤ sp.width
  · have hl : r1.length = sp.width := by
      rw [h1, List.length_append, length_withSign, blanks, List.length_replicate, Nat.sub_add_cancel hfit]
    have h2 : r2 = r1 := by simp [r2, hl]
    rw [h2, hl, if_neg (Nat.lt_irrefl _), h1, if_pos hfit]
  · have hw : sp.width < body.length + 1 := Nat.lt_of_not_le hfit
    rw [Nat.sub_eq_zero_of_le (Nat.le_of_lt hw)] at h1
    rw [if_neg hfit]
    by_cases hs : signOf sp neg = ' '
    · have h2 : r2 = body := by cases h : sp.signEnd <;> simp [r2, hsign, h1, blanks, withSign, hs, h, hw]
      simp [h2, hs]
    · have h2 : r2 = r1 := by simp [r2, hsign, hs]
      simp [h2, h1, blanks, hw, hs]

theorem renderCore_of_fits {sp : NumSpec} {body : Str} (neg : Bool) (h : Fits sp body) :
    renderCore sp neg body = blanks (sp.width - (body.length + 1)) ++ withSign sp neg body :=
  (renderCore_eq sp neg body).trans (if_pos h)

theorem length_renderCore_of_fits {sp : NumSpec} {body : Str} (neg : Bool) (h : Fits sp body) :
    (renderCore sp neg body).length = sp.width := by
  rw [renderCore_of_fits neg h, List.length_append, length_withSign, blanks, List.length_replicate, Nat.sub_add_cancel h]

theorem scan_literal (s : Str) (f : Nat) (lit : Bool) (non : Str)
    (hf : s.length < f) (h : ∀ c ∈ s, isSpecial c = false) : scan f lit s non = .ok (flush (non ++ s)) := by
  induction f generalizing s lit non with
  | zero => cases hf
  | succ f ih =>
    cases s with
    | nil => rw [scan, List.append_nil]
    | cons c r =>
      obtain ⟨hc, hr⟩ := List.forall_mem_cons.1 h
      -- a '.' is no special character, but it starts a field only before a '#', which is one
      have hd : r.head? ≠ some '#' := fun hh => by simpa [isSpecial] using hr '#' (List.mem_of_mem_head? hh)
      simp only [isSpecial, Bool.or_eq_false_iff, decide_eq_false_iff_not] at hc
      unfold scan
      simp [startsField, hc, hd, ih r false (non ++ [c]) (Nat.lt_of_succ_lt_succ hf) hr]

/-- the text one part contributes given the value it meets (`none` for a literal) -/
def partText : Part → Option Val → Option Str
  | .non s, _ => some s
  | .str c, some (.str (h :: t)) => some (if c = '!' then [h] else h :: t)
  | .str c, some (.str []) => if c = '!' then none else some []
  | .num sp, some (.num neg b) => some (renderNum sp neg b)
  | _, _ => none

/-- expected output: walk the parts, handing the next unused value to each field -/
def expected : List Part → List Val → Option Str
  | [], [] => some []
  | [], _ :: _ => none
  | .non s :: ps, vs => (expected ps vs).map (s ++ ·)
  | p :: ps, v :: vs => do let t ← partText p (some v); let r ← expected ps vs; pure (t ++ r)
  | _ :: _, [] => none

theorem fmtLoop_field {n i : Nat} {vals : List Val} {p : Part} {v : Val} {t : Str} {ps : List Part} {out : Str}
    (hp : ∀ s, p ≠ .non s) (hi : i < n) (hv : vals[i]? = some v) (ht : partText p (some v) = some t) :
    fmtLoop n vals (p :: ps) i out = fmtLoop n vals ps (i + 1) (out ++ t) := by
  have hi' : ¬ i ≥ n := Nat.not_le_of_lt hi
  cases p with
  | non s => exact absurd rfl (hp s)
  | num sp =>
    cases v with
    | str s => simp [partText] at ht
    | num neg b => simp [partText] at ht; subst ht; simp only [fmtLoop, if_neg hi', hv]
  | str c =>
    cases v with
    | num neg b => simp [partText] at ht
    | str s =>
      simp only [fmtLoop, if_neg hi', hv]
      cases s with
      | nil => by_cases hc : c = '!' <;> simp [partText, hc] at ht; subst ht; simp [hc]
      | cons h r => simp [partText] at ht; subst ht; by_cases hc : c = '!' <;> simp [hc]

/-- `i + ps.length ≤ n` keeps the "Not enough values" test of `fmtLoop` from firing: the index grows by at most one per part -/
theorem fmtLoop_expected (n : Nat) (vals : List Val) (ps : List Part) (i : Nat) (out txt : Str)
    (hn : i + ps.length ≤ n) (h : expected ps (vals.drop i) = some txt) :
    fmtLoop n vals ps i out = .ok (out ++ txt) := by
  generalize hd : vals.drop i = vs at h
  -- the equations of `expected`: nothing left; values left over; a literal; a field with its value; a field without one
  fun_induction expected ps vs generalizing i out txt with
  | case1 =>
    cases h
    rw [fmtLoop, if_neg (Nat.not_lt_of_le (List.drop_eq_nil_iff.mp hd)), List.append_nil]
  | case2 => cases h
  | case3 s ps vs ih =>
    obtain ⟨t, ht, rfl⟩ := Option.map_eq_some_iff.mp h
    rw [fmtLoop, ih i (out ++ s) t (Nat.le_of_succ_le hn) hd ht, List.append_assoc]
  | case4 p ps v vs hp ih =>
    simp only [Option.bind_eq_bind, Option.bind_eq_some_iff, Option.pure_def, Option.some.injEq] at h
    obtain ⟨t, ht, r, hr, rfl⟩ := h
    have hv : vals[i]? = some v := by rw [← List.head?_drop, hd]; rfl
    have hvs : vals.drop (i + 1) = vs := by rw [List.drop_add_one_eq_tail_drop, hd]; rfl
    obtain ⟨hi, hn'⟩ : i < n ∧ i + 1 + ps.length ≤ n := by rw [List.length_cons] at hn; omega
    rw [fmtLoop_field hp hi hv ht, ih _ _ r hn' hvs hr, List.append_assoc]
  | case5 => cases h

end Qbee.Using
