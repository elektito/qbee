import QbeeModel.Model.Lex
/-
  Scanner lemmas for Props/C14.lean: what each mode of `go` does on one piece of rendered text, and, since the scanner looks
  one character ahead, what character a rendered stream begins with.
-/
namespace Qbee.Lex

/-! equation lemmas of `go` (defined by well-founded recursion on the length of the text) -/

theorem go_code_nil (w : Str) (a : Bool) : go (.code w) a [] = flushW w := by
  conv => lhs; unfold go

theorem go_code_cons (w : Str) (a : Bool) (c : Char) (r : Str) :
    go (.code w) a (c :: r) =
    (if isWordCh c then go (.code (w ++ [lowerCh c])) a r
    else if isRawKw w && c != '\n' then go (.raw w [c]) false r
    else
      flushW w ++
        (if isBlank c then go (.code []) (a && decide (w = [])) r
         else if c = '\n' then (if (a && decide (w = [])) then [] else [.nl]) ++ go (.code []) true r
         else if c = '\'' then go .comment (a && decide (w = [])) r
         else if c = '"' then go (.str []) false r
         else match r with
           | d :: r' => if isOp2 c d then .sym2 c d :: go (.code []) false r' else .sym c :: go (.code []) false (d :: r')
           | [] => [.sym c])) := by
  conv => lhs; unfold go
  rfl

theorem go_str_nil (acc : Str) (a : Bool) : go (.str acc) a [] = [.str acc] := by
  conv => lhs; unfold go

theorem go_str_cons (acc : Str) (a : Bool) (c : Char) (r : Str) :
    go (.str acc) a (c :: r) =
    (if c = '"' then .str acc :: go (.code []) false r
     else if c = '\n' then .str acc :: .nl :: go (.code []) true r
     else go (.str (acc ++ [c])) a r) := by
  conv => lhs; unfold go

theorem go_comment_nil (a : Bool) : go .comment a [] = [] := by
  conv => lhs; unfold go

theorem go_comment_cons (a : Bool) (c : Char) (r : Str) :
    go .comment a (c :: r) = (if c = '\n' then (if a then [] else [.nl]) ++ go (.code []) true r else go .comment a r) := by
  conv => lhs; unfold go

theorem go_raw_nil (kw acc : Str) (a : Bool) : go (.raw kw acc) a [] = [.raw kw acc] := by
  conv => lhs; unfold go

theorem go_raw_cons (kw acc : Str) (a : Bool) (c : Char) (r : Str) :
    go (.raw kw acc) a (c :: r) =
    (if c = '\n' then .raw kw acc :: .nl :: go (.code []) true r else go (.raw kw (acc ++ [c])) a r) := by
  conv => lhs; unfold go

theorem blank_not_word {c : Char} (h : isBlank c = true) : isWordCh c = false := by
  simp only [isBlank, Bool.or_eq_true, decide_eq_true_eq] at h
  rcases h with h | h <;> subst h <;> decide

theorem isRawKw_nil : isRawKw [] = false := by simp [isRawKw]

theorem noNl_cons {c : Char} {t : Str} : noNl (c :: t) ↔ c ≠ '\n' ∧ noNl t := by
  simp [noNl, eq_comm]

/-- a character that is a token by itself (what `TokOk` asks of a `.sym`) -/
def SymCh (c : Char) : Prop := isWordCh c = false ∧ isBlank c = false ∧ c ≠ '\n' ∧ c ≠ '\'' ∧ c ≠ '"'

theorem op2_symCh {c d : Char} (h : isOp2 c d = true) : SymCh c := by
  simp only [isOp2, isCmpCh, Bool.and_eq_true, Bool.or_eq_true, decide_eq_true_eq] at h
  rcases h.1.1 with (rfl | rfl) | rfl <;> (unfold SymCh; decide)

theorem go_blank {c : Char} (hc : isBlank c = true) (a : Bool) (r : Str) : go (.code []) a (c :: r) = go (.code []) a r := by
  simp [go_code_cons, blank_not_word hc, hc, isRawKw_nil, flushW]

theorem go_nl (a : Bool) (r : Str) : go (.code []) a ('\n' :: r) = (if a then [] else [.nl]) ++ go (.code []) true r := by
  simp [go_code_cons, isWordCh, isBlank, isRawKw_nil, flushW]

theorem go_apostrophe (a : Bool) (r : Str) : go (.code []) a ('\'' :: r) = go .comment a r := by
  simp [go_code_cons, isWordCh, isBlank, isRawKw_nil, flushW]

theorem go_quote (a : Bool) (r : Str) : go (.code []) a ('"' :: r) = go (.str []) false r := by
  simp [go_code_cons, isWordCh, isBlank, isRawKw_nil, flushW]

theorem go_sym2 {c d : Char} (h : isOp2 c d = true) (a : Bool) (r : Str) :
    go (.code []) a (c :: d :: r) = .sym2 c d :: go (.code []) false r := by
  obtain ⟨hw, hb, hn, hq, hd⟩ := op2_symCh h
  simp [go_code_cons, hw, hb, hn, hq, hd, isRawKw_nil, flushW, h]

theorem go_sym {c : Char} (hc : SymCh c) (a : Bool) {r : Str} (h : ∀ d ∈ r.head?, isOp2 c d = false) :
    go (.code []) a (c :: r) = .sym c :: go (.code []) false r := by
  obtain ⟨hw, hb, hn, hq, hd⟩ := hc
  rw [go_code_cons]
  cases r with
  | nil => simp [hw, hb, hn, hq, hd, isRawKw_nil, flushW, go_code_nil]
  | cons d r => simp [hw, hb, hn, hq, hd, isRawKw_nil, flushW, h d rfl]

theorem go_blanks (n : Nat) (tab a : Bool) (rest : Str) :
    go (.code []) a (blanksOf n tab ++ rest) = go (.code []) a rest := by
  induction n with
  | zero => rfl
  | succ n ih =>
    rw [blanksOf, List.replicate_succ, List.cons_append, go_blank (by cases tab <;> decide)]
    exact ih

theorem go_word {sp : Str} (hs : ∀ c ∈ sp, isWordCh c = true) (w : Str) (a : Bool) (rest : Str) :
    go (.code w) a (sp ++ rest) = go (.code (w ++ sp.map lowerCh)) a rest := by
  induction sp generalizing w with
  | nil => simp
  | cons c r ih =>
    simp only [List.mem_cons, forall_eq_or_imp] at hs
    simp [go_code_cons, hs.1, ih hs.2]

/-- a pending word becomes a token where the text ends, or at a character that neither continues it nor begins the tail of
    a DATA / REM line -/
theorem go_pending {w : Str} (hne : w ≠ []) (a : Bool) {rest : Str}
    (h : ∀ d ∈ rest.head?, isWordCh d = false ∧ (isRawKw w && d != '\n') = false) :
    go (.code w) a rest = wordTok w :: go (.code []) false rest := by
  cases rest with
  | nil => simp [go_code_nil, flushW, hne]
  | cons c r =>
    obtain ⟨hc, hraw⟩ := h c rfl
    rw [go_code_cons, go_code_cons]
    simp [hc, hraw, isRawKw_nil, flushW, hne]

theorem go_str {s : Str} (hq : '"' ∉ s) (hn : noNl s) (acc : Str) (a : Bool) (rest : Str) :
    go (.str acc) a (s ++ '"' :: rest) = .str (acc ++ s) :: go (.code []) false rest := by
  induction s generalizing acc with
  | nil => simp [go_str_cons]
  | cons c r ih =>
    simp only [List.mem_cons, not_or] at hq
    obtain ⟨h2, hn⟩ := noNl_cons.1 hn
    simp [go_str_cons, Ne.symm hq.1, h2, ih hq.2 hn]

theorem go_comment {t : Str} (hn : noNl t) (a : Bool) (rest : Str) :
    go .comment a (t ++ '\n' :: rest) = (if a then [] else [.nl]) ++ go (.code []) true rest := by
  induction t with
  | nil => simp [go_comment_cons]
  | cons c r ih =>
    obtain ⟨h2, hn⟩ := noNl_cons.1 hn
    simp [go_comment_cons, h2, ih hn]

theorem go_comment_nl {c : Option Str} (hn : ∀ t, c = some t → noNl t) (a : Bool) (rest : Str) :
    go (.code []) a (commentText c ++ '\n' :: rest) = (if a then [] else [.nl]) ++ go (.code []) true rest := by
  cases c with
  | none => exact go_nl a rest
  | some t => simp [commentText, go_apostrophe, go_comment (hn t rfl)]

/-- the tail of a DATA / REM line runs to the end of the line, which is then read as after any other token -/
theorem go_raw {t : Str} (hn : noNl t) (kw acc : Str) (a : Bool) {rest : Str} (hr : ∀ d ∈ rest.head?, d = '\n') :
    go (.raw kw acc) a (t ++ rest) = .raw kw (acc ++ t) :: go (.code []) false rest := by
  induction t generalizing acc with
  | nil =>
    cases rest with
    | nil => simp [go_raw_nil, go_code_nil, flushW]
    | cons d r => simp [hr d rfl, go_raw_cons, go_nl]
  | cons c r ih =>
    obtain ⟨h2, hn⟩ := noNl_cons.1 hn
    simp [go_raw_cons, h2, ih hn]

theorem go_rawKw {kw : Str} (hkw : isRawKw kw = true) {text : Str}
    (hh : match text with | [] => True | c :: _ => isWordCh c = false) (hn : noNl text) (a : Bool) {rest : Str}
    (hr : ∀ d ∈ rest.head?, d = '\n') :
    go (.code kw) a (text ++ rest) = .raw kw text :: go (.code []) false rest := by
  cases text with
  | nil =>
    have hkne : kw ≠ [] := fun h => by simp [h, isRawKw_nil] at hkw
    rw [List.nil_append, go_pending hkne a fun d hd => by simp [hr d hd, isWordCh]]
    simp [wordTok, hkw]
  | cons c tx =>
    obtain ⟨hcn, hn⟩ := noNl_cons.1 hn
    have hc : isWordCh c = false := hh
    simp [go_code_cons, hc, hkw, hcn, go_raw hn kw [c] false hr]

theorem go_empty_lines {els : List (Nat × Option Str)} (hn : ∀ p ∈ els, ∀ t, p.2 = some t → noNl t) (rest : Str) :
    go (.code []) true (emptyLinesText els ++ rest) = go (.code []) true rest := by
  induction els with
  | nil => rfl
  | cons p r ih =>
    simp only [List.mem_cons, forall_eq_or_imp] at hn
    simp [emptyLinesText, go_blanks, go_comment_nl hn.1, ih hn.2]

/-- a text written after blanks begins with a blank, or, if there are none, as it does without them -/
theorem blanksOf_head {P : Char → Prop} (n : Nat) (tab : Bool) (hb : P (if tab then '\t' else ' ')) (c : Char) (x : Str)
    (hc : n = 0 → P c) : ∃ d tail, blanksOf n tab ++ c :: x = d :: tail ∧ P d := by
  cases n with
  | zero => exact ⟨c, x, rfl, hc rfl⟩
  | succ n => exact ⟨_, _, rfl, hb⟩

/-- a written token begins with a character that is not a word character, nor, unless it is a symbol written without a
    blank, a comparison character -/
theorem render_cons_head {q : Tok × Lay} (hq : TokOk q) (r : List (Tok × Lay)) :
    ∃ d tail, render (q :: r) = d :: tail ∧ isWordCh d = false ∧ (isCmpCh d = false ∨ firstCh q = some d) := by
  obtain ⟨t, l⟩ := q
  have plain {d : Char} (h : isWordCh d = false ∧ isCmpCh d = false) :
      isWordCh d = false ∧ (isCmpCh d = false ∨ firstCh (t, l) = some d) := ⟨h.1, .inl h.2⟩
  have hb := plain (d := if l.tab then '\t' else ' ') (by cases l.tab <;> decide)
  cases t <;> simp only [render, renderTok, List.append_assoc, List.cons_append, List.nil_append]
  case word | raw => exact ⟨_, _, rfl, hb⟩
  case str => exact blanksOf_head _ _ hb _ _ fun _ => plain (by decide)
  case sym => exact blanksOf_head _ _ hb _ _ fun h0 => ⟨hq.1, .inr (by simp [firstCh, h0])⟩
  case sym2 => exact blanksOf_head _ _ hb _ _ fun h0 => ⟨(op2_symCh hq).1, .inr (by simp [firstCh, h0])⟩
  case nl => cases l.comment <;> exact blanksOf_head _ _ hb _ _ fun _ => plain (by decide)

theorem RawThenNl.tail {p : Tok × Lay} {r : List (Tok × Lay)} (h : RawThenNl (p :: r)) : RawThenNl r := by
  obtain ⟨t, l⟩ := p
  cases r with
  | nil => trivial
  | cons q r' =>
    cases t with
    | raw => exact h.2.2.2
    | _ => exact h

theorem NoGlue.tail {p : Tok × Lay} {r : List (Tok × Lay)} (h : NoGlue (p :: r)) : NoGlue r := by
  obtain ⟨t, l⟩ := p
  cases r with
  | nil => trivial
  | cons q r' =>
    cases t with
    | sym => exact h.2
    | _ => exact h

theorem RawThenNl.next_nl {kw text : Str} {l : Lay} {r : List (Tok × Lay)} (h : RawThenNl ((.raw kw text, l) :: r)) :
    ∀ d ∈ (render r).head?, d = '\n' := by
  cases r with
  | nil => simp [render]
  | cons q r' =>
    obtain ⟨t2, l2⟩ := q
    obtain ⟨rfl, hb, hc, -⟩ := h
    simp [render, renderTok, hb, hc, blanksOf, commentText]

/-- the character after a symbol does not make a comparison operator with it: it is not a comparison character, or it is
    the one `NoGlue` speaks of -/
theorem NoGlue.next_no_op2 {c : Char} {l : Lay} {r : List (Tok × Lay)} (h : NoGlue ((.sym c, l) :: r))
    (hok : ∀ p ∈ r, TokOk p) : ∀ d ∈ (render r).head?, isOp2 c d = false := by
  cases r with
  | nil => simp [render]
  | cons q r' =>
    obtain ⟨d, tail, hr, -, hd | hd⟩ := render_cons_head (hok q (by simp)) r'
    · simp [hr, isOp2, hd]
    · simp [hr, h.1 d hd]

end Qbee.Lex
