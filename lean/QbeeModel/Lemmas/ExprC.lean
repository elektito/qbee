import QbeeModel.Model.ExprC
namespace Qbee.ExprC
open Qbee.Gen

theorem allBinOk_lem : allBinOk = true := by decide +kernel
theorem allUnOk_lem : allUnOk = true := by decide +kernel

theorem absRun_cons (i : Nat) (r : List Nat) (st : List Ty) :
    absRun (i :: r) st = (absStep i st).bind (absRun r) := by
  unfold absRun; cases absStep i st <;> rfl

theorem absRun_append (c1 c2 : List Nat) (st : List Ty) :
    absRun (c1 ++ c2) st = (absRun c1 st).bind (absRun c2) := by
  induction c1 generalizing st with
  | nil => rfl
  | cons i r ih =>
    rw [List.cons_append, absRun_cons, absRun_cons]
    cases absStep i st with
    | none => rfl
    | some st' => exact ih st'

theorem absStep_frame (ins : Nat) (s s' rest : List Ty) (h : absStep ins s = some s') :
    absStep ins (s ++ rest) = some (s' ++ rest) := by
  unfold absStep at h ⊢
  by_cases hm : ins = 2000 ∨ ins = 2001 ∨ ins = 2002 ∨ ins = 2003 ∨ ins = 2004
  · -- an operand marker pushes
    rcases hm with rfl | rfl | rfl | rfl | rfl <;> (cases h; rfl)
  · -- any other instruction looks at the top one or two entries only
    simp only [not_or] at hm
    simp only [hm, if_false] at h ⊢
    -- (on the empty stack `h` is `none = some s'`: no arm)
    match s, h with
    | [b], h =>
      dsimp only [List.cons_append, List.nil_append] at h ⊢
      split at h
      · cases h; rfl
      · cases h
      · cases h
    | b :: a :: r, h =>
      dsimp only [List.cons_append] at h ⊢
      split at h
      · cases h; rfl
      · cases h
      · split at h
        · cases h; rfl
        · cases h

theorem absRun_frame (c : List Nat) (s s' rest : List Ty) (h : absRun c s = some s') :
    absRun c (s ++ rest) = some (s' ++ rest) := by
  induction c generalizing s with
  | nil => cases h; rfl
  | cons i r ih =>
    rw [absRun_cons] at h ⊢
    obtain ⟨s1, hs, h1⟩ := Option.bind_eq_some_iff.mp h
    rw [absStep_frame i s s1 rest hs]
    exact ih s1 h1

theorem lookupN_mem {β} (tbl : List (Nat × β)) (k : Nat) (v : β) (h : lookupN tbl k = some v) :
    (k, v) ∈ tbl := by
  induction tbl with
  | nil => cases h
  | cons e r ih =>
    unfold lookupN at h
    split at h
    · next hk => cases h; cases Nat.eq_of_beq_eq_true hk; exact List.mem_cons_self
    · exact List.mem_cons_of_mem _ (ih h)

theorem tyIdx_lt (t : Ty) : tyIdx t < 5 := by cases t <;> decide
theorem tyIdx_inj {a b : Ty} (h : tyIdx a = tyIdx b) : a = b := by
  cases a <;> cases b <;> first | rfl | cases h

/-- a row sits under the key of its own operator and operand types, and an accepted row passed the check `binOkRow` -/
theorem binRow_sound {op : Nat} {l r : Ty} {op' : Nat} {l' r' : Ty} {acc : Bool} {res : Option Ty} {code : List Nat}
    (h : binRow op l r = some (op', l', r', acc, res, code)) :
    op' = op ∧ l' = l ∧ r' = r ∧ (acc = true → binOkRow l r res code = true) := by
  have hrow := List.all_eq_true.mp allBinOk_lem _ (lookupN_mem _ _ _ h)
  simp only [Bool.and_eq_true, Bool.or_eq_true, Bool.not_eq_true'] at hrow
  have hk := Nat.eq_of_beq_eq_true hrow.1
  -- the key `op * 25 + tyIdx l * 5 + tyIdx r` has digits below 5, so it determines all three (`omega`, here and below)
  have := tyIdx_lt l; have := tyIdx_lt r; have := tyIdx_lt l'; have := tyIdx_lt r'
  obtain rfl : l' = l := tyIdx_inj (by omega)
  obtain rfl : r' = r := tyIdx_inj (by omega)
  exact ⟨by omega, rfl, rfl, fun ha => by simpa [ha] using hrow.2⟩

theorem unRow_sound {op : Nat} {a : Ty} {op' : Nat} {a' : Ty} {acc : Bool} {res : Option Ty} {code : List Nat}
    (h : unRow op a = some (op', a', acc, res, code)) :
    op' = op ∧ a' = a ∧ (acc = true → unOkRow a res code = true) := by
  have hrow := List.all_eq_true.mp allUnOk_lem _ (lookupN_mem _ _ _ h)
  simp only [Bool.and_eq_true, Bool.or_eq_true, Bool.not_eq_true'] at hrow
  have hk := Nat.eq_of_beq_eq_true hrow.1
  have := tyIdx_lt a; have := tyIdx_lt a'
  obtain rfl : a' = a := tyIdx_inj (by omega)
  exact ⟨by omega, rfl, fun ha => by simpa [ha] using hrow.2⟩

/-- what the static check says of an accepted binary operator application: typed operands, and the row of the operator
    at those types is accepted with this result type and has passed `binOkRow` -/
theorem ty_bin_some {op : Nat} {a b : E} {t : Ty} (h : ty (.bin op a b) = some t) :
    ∃ l r code, ty a = some l ∧ ty b = some r ∧ binRow op l r = some (op, l, r, true, some t, code) ∧
      binOkRow l r (some t) code = true := by
  unfold ty at h
  split at h
  · next hl hr =>
    split at h
    · next hrow =>
      subst h
      obtain ⟨rfl, rfl, rfl, hok⟩ := binRow_sound hrow
      exact ⟨_, _, _, hl, hr, hrow, hok rfl⟩
    · cases h
  · cases h

theorem ty_un_some {op : Nat} {a : E} {t : Ty} (h : ty (.un op a) = some t) :
    ∃ ta code, ty a = some ta ∧ unRow op ta = some (op, ta, true, some t, code) ∧ unOkRow ta (some t) code = true := by
  unfold ty at h
  split at h
  · next ha =>
    split at h
    · next hrow =>
      subst h
      obtain ⟨rfl, rfl, hok⟩ := unRow_sound hrow
      exact ⟨_, _, ha, hrow, hok rfl⟩
    · cases h
  · cases h

/-- the type of a node depends on its operands through their types only -/
theorem ty_bin_atoms (op : Nat) {ea eb : E} {l r : Ty} (ha : ty ea = some l) (hb : ty eb = some r) :
    ty (.bin op ea eb) = ty (.bin op (.atom l) (.atom r)) := by simp only [ty, ha, hb]

theorem ty_un_atom (op : Nat) {ea : E} {t : Ty} (ha : ty ea = some t) : ty (.un op ea) = ty (.un op (.atom t)) := by
  simp only [ty, ha]

/-- `binOkRow` spelt out -/
theorem binOkRow_some {l r t : Ty} {code : List Nat} (h : binOkRow l r (some t) code = true) :
    ∃ cl cr l', splitBin code = some (cl, cr) ∧ absRun cl [l] = some [l'] ∧ absRun cr [r, l'] = some [t] := by
  unfold binOkRow at h
  split at h
  · next t' cl cr ht hsp =>
    cases ht
    split at h
    · next l' hcl => exact ⟨cl, cr, l', hsp, hcl, of_decide_eq_true h⟩
    · cases h
  · cases h

theorem unOkRow_some {a t : Ty} {code : List Nat} (h : unOkRow a (some t) code = true) :
    ∃ c, splitUn code = some c ∧ absRun c [a] = some [t] := by
  unfold unOkRow at h
  split at h
  · next t' c ht hsp => cases ht; exact ⟨c, hsp, of_decide_eq_true h⟩
  · cases h

theorem absStep_mark (t : Ty) (st : List Ty) : absStep (tyMark t) st = some (t :: st) := by
  cases t <;> rfl

end Qbee.ExprC
