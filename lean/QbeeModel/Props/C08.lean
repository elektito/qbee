import QbeeModel.Lemmas.Asm
/-
  C08  Debug information does not change what a program does.  Property theorems only.

  Proved: the assembler is blind to debug markers (byte-identical code section, same label addresses) for every
  symbolic instruction stream; markers are recorded on instruction boundaries.  That the code generator only ADDS
  markers (erase (gen -g) = gen without -g) and that the peephole pass behaves alike is validated per program.
-/
namespace Qbee.Asm

/-- debug markers are invisible to the assembler: the code section assembled from a stream with markers is
    byte-identical to the one assembled from the same stream with the markers removed -- same label
    addresses, same patched operands, same bytes -/
theorem assemble_erase (s : List SI) : assemble (erase s) = assemble s := by
  unfold assemble
  rw [labelTable_erase, emit_erase]

/-- every marker is recorded at an instruction boundary: the offset of an instruction start, or the end of the code -/
theorem marker_on_boundary : ∀ (s : List SI) (off k o : Nat), (k, o) ∈ markerOffsets s off →
    o ∈ starts s off ∨ o = off + totalSize s := by
  intro s
  induction s with
  | nil => exact fun _ _ _ h => nomatch h
  | cons i r ih =>
    intro off k o h
    cases i with
    | marker k' =>
      rw [totalSize_marker]
      rcases List.mem_cons.1 h with h | h
      · cases h; exact boundary_here r off
      · exact ih off k o h
    | label n => exact totalSize_label n r ▸ ih off k o h
    | ins op a =>
      exact (ih (off + size (.ins op a)) k o h).imp (List.mem_cons_of_mem _) (·.trans (Nat.add_assoc ..))

example : assemble [.marker 0, .ins 28 [.lbl "x"], .marker 1, .label "x", .ins 100 []] = some [28, 0, 0, 0, 5, 100] := by decide +kernel

end Qbee.Asm
