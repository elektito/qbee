import QbeeModel.Lemmas.Lex
/-
  C14  Spelling, spacing, comments and separators do not change the program.  Property theorems only.

  PARTIAL.  `lex_render`: however a token stream is written - any letter case of every keyword and identifier, any
  number of blanks or tabs before every token, any trailing `' comment`, any number of empty or comment-only lines -
  the lexical layer reads back exactly that token stream.  Hence two texts that differ only in those respects have the
  same tokens (`same_tokens`).  What the theorem does not reach: that the real grammar looks at nothing but these
  tokens (checked by the correspondence "equal token streams => identical module sections" on random edits), and the
  streams with a signed exponent (`1e-5`: one token of the grammar, three of the model - excluded by `NoSignedExponent`), and
  the rewritings above the lexical layer - colon versus newline, LET, CALL forms, NEXT variable, `><`, label names - which
  are decided by the metamorphic oracle of harness/checks/c14.py only.
-/
namespace Qbee.Lex

/-- the first character of any written token is not a word character -/
theorem render_head (ts : List (Tok × Lay)) (hok : ∀ p ∈ ts, TokOk p) :
    render ts = [] ∨ ∃ c rest, render ts = c :: rest ∧ isWordCh c = false := by
  cases ts with
  | nil => exact .inl rfl
  | cons q r =>
    obtain ⟨d, tail, h, hd, -⟩ := render_cons_head (hok q (by simp)) r
    exact .inr ⟨d, tail, h, hd⟩

/-- THE ROUND TRIP: reading any writing of a token stream gives the token stream -/
theorem go_render : ∀ (ts : List (Tok × Lay)) (a : Bool), (∀ p ∈ ts, TokOk p) → RawThenNl ts → NoGlue ts → NoEmptyLine a ts →
    go (.code []) a (render ts) = ts.map Prod.fst
  | [], a, _, _, _, _ => go_code_nil [] a
  | (t, l) :: r, a, hok, hraw, hglue, hnel => by
    have hp := hok (t, l) (by simp)
    have hok' : ∀ p ∈ r, TokOk p := fun p hp => hok p (by simp [hp])
    have ih := fun a' => go_render r a' hok' hraw.tail hglue.tail
    -- every token is written after blanks, which are skipped
    cases t <;> simp only [render, renderTok, List.map_cons, List.append_assoc, List.cons_append, List.nil_append] <;>
      rw [go_blanks]
    case word w =>
      obtain ⟨hne, hnr, hsp, hall⟩ := hp
      have hnext : ∀ d ∈ (render r).head?, isWordCh d = false ∧ (isRawKw w && d != '\n') = false := by
        rcases render_head r hok' with h | ⟨c, rest, h, hc⟩
        · simp [h]
        · simp [h, hc, hnr]
      rw [go_word hall, List.nil_append, hsp, go_pending hne a hnext, ih false hnel]
      simp [wordTok, hnr]
    case raw kw text =>
      obtain ⟨hkw, hsp, hall, hnt, hhead⟩ := hp
      rw [go_word hall, List.nil_append, hsp, go_rawKw hkw hhead hnt a hraw.next_nl, ih false hnel]
    case str s => rw [go_quote, go_str hp.1 hp.2, ih false hnel]; rfl
    case sym c => rw [go_sym hp a (hglue.next_no_op2 hok'), ih false hnel]
    case sym2 c d => rw [go_sym2 hp, ih false hnel]
    case nl =>
      obtain ⟨rfl, hnel⟩ := hnel
      rw [go_comment_nl hp.1, go_empty_lines hp.2, ih true hnel]; rfl

theorem lex_render (ts : List (Tok × Lay)) (hok : ∀ p ∈ ts, TokOk p) (hraw : RawThenNl ts) (hglue : NoGlue ts)
    (hnel : NoEmptyLine true ts) (_scope : NoSignedExponent ts) : lex (render ts) = ts.map Prod.fst :=
  go_render ts true hok hraw hglue hnel

/-- two writings of the same token stream - different letter case, blanks, tabs, comments, empty lines - have the same
    tokens -/
theorem same_tokens (ts ts' : List (Tok × Lay)) (hsame : ts.map Prod.fst = ts'.map Prod.fst)
    (hok : ∀ p ∈ ts, TokOk p) (hok' : ∀ p ∈ ts', TokOk p) (hraw : RawThenNl ts) (hraw' : RawThenNl ts')
    (hglue : NoGlue ts) (hglue' : NoGlue ts') (hnel : NoEmptyLine true ts) (hnel' : NoEmptyLine true ts')
    (hexp : NoSignedExponent ts) (hexp' : NoSignedExponent ts') :
    lex (render ts) = lex (render ts') := by
  rw [lex_render ts hok hraw hglue hnel hexp, lex_render ts' hok' hraw' hglue' hnel' hexp', hsame]

/-- non-vacuity: `\t\t\tPrInT<> ' c` / blank line: a stream with a non-trivial layout meets every hypothesis -/
def demoStream : List (Tok × Lay) :=
  [(.word "print".toList, ⟨2, true, "PrInT".toList, none, []⟩), (.sym2 '<' '>', ⟨0, false, [], none, []⟩),
   (.nl, ⟨1, false, [], some " c".toList, [(3, none)]⟩)]

example : demoStream.map Prod.fst = [.word "print".toList, .sym2 '<' '>', .nl] := rfl
example : RawThenNl demoStream ∧ NoGlue demoStream ∧ NoEmptyLine true demoStream ∧ NoSignedExponent demoStream :=
  ⟨trivial, trivial, ⟨rfl, trivial⟩, trivial⟩
example : ∀ p ∈ demoStream, TokOk p := by
  intro p hp
  simp only [demoStream, List.mem_cons, List.mem_nil_iff, or_false] at hp
  rcases hp with rfl | rfl | rfl
  · exact ⟨by decide, by decide, by decide, by decide⟩
  · exact (by decide : isOp2 '<' '>' = true)
  · exact ⟨fun t ht => by cases ht; unfold noNl; decide, fun p hp t ht => by simp at hp; subst hp; cases ht⟩

end Qbee.Lex
