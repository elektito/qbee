import QbeeModel.Lemmas.DebugMap
import QbeeModel.Props.C08
/-
  C11  The debug map attributes every instruction to its source statement.  Property theorems only.
  (records on instruction boundaries: `Qbee.Asm.marker_on_boundary`, restated here)
-/
namespace Qbee.DebugMap

/-- a complete well-bracketed stream is accepted by the collector (no 'Incorrect debug info' assertion)
    and its statement ranges nest the way the brackets nest: any two are nested or disjoint -/
theorem laminar (lo hi : Nat) (evs : List Ev) (h : WB lo hi evs) :
    ∃ rs, collect evs [] [] = some rs ∧ Laminar rs ∧ Within lo hi rs := by
  obtain ⟨rs, hc, hl, hw⟩ := collect_WB h
  exact ⟨rs, by simpa [collect] using hc [] [] [], hl, hw⟩

/-- in a laminar record set the lookup returns the INNERMOST statement: the record it returns contains
    the address and lies inside every other record that contains the address -/
theorem findStmt_innermost (rs : List Rec) (hl : Laminar rs) (addr : Nat) (r : Rec)
    (h : findStmt rs addr = some r) :
    r ∈ rs ∧ Contains r addr ∧ ∀ x ∈ rs, Contains x addr → x.s ≤ r.s ∧ r.e ≤ x.e := by
  obtain ⟨hr, hc, hmin⟩ := findStmt_some h
  refine ⟨hr, hc, fun x hx hcx => ?_⟩
  -- of two laminar ranges that share `addr`, the one that is not wider lies inside the other
  have := hmin x hx hcx
  unfold Contains at hc hcx
  rcases hl r hr x hx with h | h | h | h <;> omega

/-- an address covered by some statement record is attributed (never "no statement") -/
theorem findStmt_covers (rs : List Rec) (addr : Nat) (x : Rec) (hx : x ∈ rs) (hc : Contains x addr) :
    ∃ r, findStmt rs addr = some r := by
  cases h : findStmt rs addr with
  | some r => exact ⟨r, rfl⟩
  | none => exact absurd hc (findStmt_none h x hx)

example : WB 0 9 [.start 1 0, .start 2 2, .stop 2 5, .stop 1 9] :=
  WB.wrap 1 0 9 0 9 [.start 2 2, .stop 2 5] (by decide) (by decide)
    (WB.wrap 2 2 5 0 9 [] (by decide) (by decide) (WB.nil 2 5 (by decide)))
example : findStmt [⟨1, 0, 9⟩, ⟨2, 2, 5⟩] 3 = some ⟨2, 2, 5⟩ := by decide +kernel

/-- statement ranges begin and end on instruction boundaries (or at the end of the code) -/
theorem records_on_boundaries (s : List Asm.SI) (off k o : Nat) (h : (k, o) ∈ Asm.markerOffsets s off) :
    o ∈ Asm.starts s off ∨ o = off + Asm.totalSize s := Asm.marker_on_boundary s off k o h

end Qbee.DebugMap
