import QbeeModel.Lemmas.Layout
/-
  C04  Variables, array elements and record fields never overlap or leak.  The property theorems, and `field_before`:
  `fields_disjoint` with the order of the two fields known.
-/
namespace Qbee.Layout

/-- two different variables of one frame (or of the global area) occupy disjoint cell ranges,
    both inside the frame: the later one starts after the earlier one ends -/
theorem vars_disjoint (a b c : List (String × VType)) (v w : String) (tv tw : VType)
    (hnd : ((a ++ (v, tv) :: (b ++ (w, tw) :: c)).map (·.1)).Nodup) :
    ∃ i j, varIdx (a ++ (v, tv) :: (b ++ (w, tw) :: c)) v = some i ∧
           varIdx (a ++ (v, tv) :: (b ++ (w, tw) :: c)) w = some j ∧
           i + tv.size ≤ j ∧ j + tw.size ≤ frameSize (a ++ (v, tv) :: (b ++ (w, tw) :: c)) := by
  refine ⟨frameSize a, frameSize (a ++ (v, tv) :: b), varIdx_of_nodup hnd, ?_, ?_, ?_⟩
  · -- regrouped as `(a ++ (v, tv) :: b) ++ (w, tw) :: c`
    rw [← List.cons_append, ← List.append_assoc] at hnd ⊢
    exact varIdx_of_nodup hnd
  · simp
  · simp; omega

/-- the cells of any field (at any nesting depth) lie inside the record -/
theorem field_inside : ∀ (p : List Nat) (t ft : FType) (o : Nat),
    fieldOffset t p = some o → fieldType t p = some ft → o + ft.size ≤ t.size := by
  intro p t ft o ho hf
  induction p generalizing t o with
  | nil => cases ho; cases hf; exact Nat.le_of_eq (Nat.zero_add _)
  | cons i p ih =>
    obtain ⟨fs, f, o', rfl, hfi, ho', hf', rfl⟩ := field_cons ho hf
    have := ih f o' ho' hf'
    have := sizeL_take_le hfi
    rw [FType.size]
    omega

/-- of two paths that part after a common prefix `c`, the one through the earlier field ends before the other starts -/
theorem field_before {c : List Nat} {t : FType} {i j : Nat} {p q : List Nat} {fp fq : FType} {op oq : Nat} (hij : i < j)
    (h1 : fieldOffset t (c ++ i :: p) = some op) (t1 : fieldType t (c ++ i :: p) = some fp)
    (h2 : fieldOffset t (c ++ j :: q) = some oq) (t2 : fieldType t (c ++ j :: q) = some fq) : op + fp.size ≤ oq := by
  induction c generalizing t op oq with
  | nil =>
    obtain ⟨fs, f, o1, rfl, hf, h1', t1', rfl⟩ := field_cons h1 t1
    obtain ⟨_, g, o2, ⟨⟩, -, -, -, rfl⟩ := field_cons h2 t2
    have := field_inside p f fp o1 h1' t1'
    have := sizeL_take_mono hij hf
    omega
  | cons k c ih =>
    -- both paths enter the same field `k`, which shifts both offsets by the same amount
    obtain ⟨fs, f, o1, rfl, hf, h1', t1', rfl⟩ := field_cons h1 t1
    obtain ⟨_, g, o2, ⟨⟩, hg, h2', t2', rfl⟩ := field_cons h2 t2
    cases hf.symm.trans hg
    have := ih h1' t1' h2' t2'
    omega

/-- two field paths that diverge (after a common prefix `c` they select different fields i ≠ j)
    denote disjoint cell ranges -/
theorem fields_disjoint : ∀ (c : List Nat) (t : FType) (i j : Nat) (p q : List Nat) (fp fq : FType) (op oq : Nat),
    i ≠ j →
    fieldOffset t (c ++ i :: p) = some op → fieldType t (c ++ i :: p) = some fp →
    fieldOffset t (c ++ j :: q) = some oq → fieldType t (c ++ j :: q) = some fq →
    op + fp.size ≤ oq ∨ oq + fq.size ≤ op :=
  fun _ _ _ _ _ _ _ _ _ _ hij h1 t1 h2 t2 =>
    (Nat.lt_or_gt_of_ne hij).imp (field_before · h1 t1 h2 t2) (field_before · h2 t2 h1 t1)

/-- distinct in-bounds subscript tuples address distinct elements (element size > 0): the
    row-major offset is injective -/
theorem elemOffset_inj (e : Nat) (he : 0 < e) : ∀ (ds : List (Int × Int)) (is js : List Int) (o : Nat),
    elemOffset e ds is = some o → elemOffset e ds js = some o → is = js := by
  intro ds is js o h1 h2
  have below {ds is o} (h : elemOffset e ds is = some o) : o < prodExt ds * e :=
    Nat.lt_of_lt_of_le (Nat.lt_add_of_pos_right he) (elemOffset_bound h)
  induction ds generalizing is js o with
  | nil => rw [(elemOffset_nil h1).1, (elemOffset_nil h2).1]
  | cons d ds ih =>
    obtain ⟨k, is, o1, rfl, -, h1', rfl⟩ := elemOffset_cons h1
    obtain ⟨l, js, o2, rfl, -, h2', ho⟩ := elemOffset_cons h2
    -- the offsets inside the two rows are below the size of a row: equal sums have equal rests and equal row numbers
    obtain ⟨rfl, rfl⟩ := add_mul_inj (below h1') (below h2') ho
    rw [ih is js o1 h1' h2']

/-- every element lies inside the array's storage, after the header -/
theorem elem_inside (e : Nat) (ds : List (Int × Int)) (is : List Int) (c : Nat)
    (h : elemIndex e ds is = some c) :
    headerSize ds ≤ c ∧ c + e ≤ (VType.sarr (.cell) ds).size - 1 * prodExt ds + prodExt ds * e := by
  obtain ⟨o, ho, rfl⟩ := Option.map_eq_some_iff.mp h
  have := elemOffset_bound ho
  simp [VType.size, FType.size]
  omega

/-- assigning one cell changes that cell only -/
theorem store_frame {V} (m : Mem V) (c c' : Nat) (x : V) :
    (m.store c x) c' = if c' = c then some x else m c' := rfl

/-- reading changes nothing observable: every other cell is untouched, and the cell read still
    reads as the same value -/
theorem read_pure {V} (d : V) (m : Mem V) (c : Nat) :
    (∀ c', c' ≠ c → (readCell d m c).2 c' = m c') ∧
    (readCell d (readCell d m c).2 c).1 = (readCell d m c).1 ∧
    ((readCell d m c).2 c).getD d = (m c).getD d := by
  unfold readCell
  cases h : m c with
  | some v => simp [h]
  | none => simp +contextual [Mem.store]

/-- a location never assigned reads as the default (0 or the empty string) -/
theorem unset_reads_default {V} (d : V) (m : Mem V) (c : Nat) (h : m c = none) :
    (readCell d m c).1 = d := by simp [readCell, h]

theorem assigned_reads_value {V} (d : V) (m : Mem V) (c : Nat) (x : V) :
    (readCell d (m.store c x) c).1 = x := by simp [readCell, Mem.store]

/-- the unrepaired readidx clobbered an unrelated cell: the full statement "reading changes
    nothing" was false of it -/
theorem readIdxOld_clobbers :
    ∃ (m : Mem Nat) (var idx c' : Nat), c' ≠ var + idx ∧ (readIdxOld 0 m var idx).2 c' ≠ m c' :=
  ⟨fun c => if c = 1 then some 7 else none, 5, 1, 1, by decide, by simp [readIdxOld, Mem.store]⟩

/-- a by-reference argument aliases exactly the location the caller named -/
theorem byref_aliases_exactly {V} (nL : Nat) (args : List (Arg V)) (i s k : Nat)
    (h : args[i]? = some (.ref s k)) : (bindParams nL args)[i]? = some (.ref s k) :=
  (bindParams_param nL (List.getElem?_eq_some_iff.mp h).1).trans (bindGo_ref _ h)

/-- an expression argument aliases nothing: its parameter refers to a fresh cell beyond the
    frame's declared cells, which holds a copy of the value -/
theorem byval_aliases_nothing {V} (nL : Nat) (args : List (Arg V)) (i : Nat) (v : V)
    (h : args[i]? = some (.val v)) :
    ∃ t, args.length + nL ≤ t ∧ (bindParams nL args)[i]? = some (.ref 0 t) ∧
         (bindParams nL args)[t]? = some (.val v) :=
  have ⟨h1, h2⟩ := bindGo_val (args.length + nL) h
  ⟨args.length + nL + nVals (args.drop (i + 1)), Nat.le_add_right ..,
    (bindParams_param nL (List.getElem?_eq_some_iff.mp h).1).trans h1, (bindParams_temp nL args _).trans h2⟩

/-- the parameters of a routine need one cell each -/
theorem params_one_cell_each (ps ls : List (String × VType)) :
    frameSize (routineFrame ps ls) = ps.length + frameSize ls := by
  simp [routineFrame]

/-- the code of the callee finds its k-th parameter in cell k of the frame, whatever the earlier parameters refer to -/
theorem param_slot_is_position (ps ls : List (String × VType)) (k : Nat) (hk : k < ps.length)
    (hnd : (ps.map (·.1)).Nodup) : varIdx (routineFrame ps ls) (ps[k]).1 = some k :=
  varIdx_append_left _ (varIdx_param_pos hk hnd)

/-- ... and that cell holds the reference the caller passed for its k-th argument: a parameter of any type (a whole record
    too) names exactly the caller's location -/
theorem param_reads_its_argument {V} (ps ls : List (String × VType)) (args : List (Arg V)) (nL k s i : Nat)
    (hk : k < ps.length) (hnd : (ps.map (·.1)).Nodup) (h : args[k]? = some (.ref s i)) :
    ∃ c, varIdx (routineFrame ps ls) (ps[k]).1 = some c ∧ (bindParams nL args)[c]? = some (.ref s i) :=
  ⟨k, param_slot_is_position ps ls k hk hnd, byref_aliases_exactly nL args k s i h⟩

/-- a local variable lies behind the parameter cells -/
theorem local_behind_params (ps ls : List (String × VType)) (v : String) (c : Nat)
    (hp : ∀ p ∈ ps, p.1 ≠ v) (h : varIdx ls v = some c) : varIdx (routineFrame ps ls) v = some (c + ps.length) := by
  rw [routineFrame, varIdx_append_right, h, frameSize_params]
  · rfl
  · exact List.forall_mem_map.mpr hp

/-- before the repair a record parameter was given the room of the whole record: the parameter after it was looked up in a
    cell that `frame` never filled with its argument (`frame` pops one cell per argument) -/
theorem whole_record_sizing_was_wrong :
    ∃ (ps ls : List (String × VType)) (k : Nat) (hk : k < ps.length),
      varIdx (routineFrameOld ps ls) (ps[k]).1 ≠ some k ∧ varIdx (routineFrame ps ls) (ps[k]).1 = some k :=
  ⟨[("q", .val (.record [.cell, .cell])), ("m", .val .cell)], [], 1, by decide, by decide, by decide⟩

example : routineFrame [("a", .dyn), ("q", .val (.record [.cell, .record [.cell, .cell]])), ("m", .val .cell)] [("l", .val .cell)] =
    [("a", .dyn), ("q", .dyn), ("m", .dyn), ("l", .val .cell)] := by rfl

/-- every activation gets fresh locals: all declared local cells of a new frame are unset -/
theorem fresh_locals {V} (nL : Nat) (args : List (Arg V)) (j : Nat)
    (h1 : args.length ≤ j) (h2 : j < args.length + nL) : (bindParams nL args)[j]? = some .unset := by
  unfold bindParams
  rw [List.append_assoc, List.getElem?_append_right (by simpa using h1),
    List.getElem?_append_left (by simp; omega), List.getElem?_replicate, if_pos (by simp; omega)]

/-- two expression arguments never share their temporary cell -/
theorem byval_temps_distinct {V} (args : List (Arg V)) (i j : Nat) (v w : V) (hij : i < j)
    (_hi : args[i]? = some (.val v)) (hj : args[j]? = some (.val w)) :
    nVals (args.drop (i + 1)) ≠ nVals (args.drop (j + 1)) :=
  Nat.ne_of_gt (nVals_drop_lt hij hj)

example : bindParams 1 [Arg.ref 3 7, Arg.val (5 : Nat), Arg.val 6] =
    [.ref 3 7, .ref 0 5, .ref 0 4, .unset, .val 6, .val 5] := by rfl

end Qbee.Layout
