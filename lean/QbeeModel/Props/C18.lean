import QbeeModel.Lemmas.Input
/-
  C18  INPUT assigns only well-typed values and re-prompts on bad lines.  Property theorems only.
  The model is of the code AFTER the repair commit (push only when the whole line is accepted);
  `tryLineOld` keeps the unrepaired behaviour for the witness theorem.  `callsOf` (the device calls a run made)
  and `retryCalls` are defined in Lemmas/Input.lean.
-/
namespace Qbee.Input
open Qbee.NumFmt

/-- a refused response line leaves nothing on the operand stack -/
theorem rejected_line_no_effect (tys : List Nat) (line : Str) (l : List Cell)
    (h : tryLine tys line = .rejected l) : l = [] := by
  simp only [tryLine] at h
  split at h
  · injection h with h; exact h.symm
  · exact convAll_inv.2 l h

/-- an accepted line has exactly one field per variable, every field converts to its variable's
    type, and the cells are pushed last variable first -- so that the stores generated after the
    `io` instruction (first variable first) pop field i into variable i -/
theorem accepted_assigns_in_order (tys : List Nat) (line : Str) (p : List Cell)
    (h : tryLine tys line = .accepted p) :
    (fields line).length = tys.length ∧
    ((fields line).zip tys).map (fun x => convField x.2 x.1) = p.reverse.map FieldRes.ok := by
  simp only [tryLine] at h
  split at h
  · cases h
  · next hlen =>
    obtain ⟨cs, rfl, h2⟩ := convAll_inv.1 p h
    refine ⟨by simpa using hlen, ?_⟩
    simpa [List.map_reverse] using congrArg List.reverse h2

/-- conversely: one field per variable, each well-formed and in range for its type => accepted -/
theorem accepted_of_all_ok (tys : List Nat) (line : Str)
    (hlen : (fields line).length = tys.length)
    (hok : ∀ x ∈ (fields line).zip tys, ∃ c, convField x.2 x.1 = .ok c) :
    ∃ p, tryLine tys line = .accepted p := by
  obtain ⟨cs, h⟩ := convAll_append_of_ok ((fields line).zip tys).reverse [] [] fun x hx => hok x (List.mem_reverse.mp hx)
  rw [List.append_nil] at h
  exact ⟨[] ++ cs, by rw [tryLine, if_neg (not_not_intro hlen)]; exact h⟩

/-- a wrong number of fields is refused -/
theorem rejected_of_count (tys : List Nat) (line : Str) (h : (fields line).length ≠ tys.length) :
    tryLine tys line = .rejected [] := by
  simp [tryLine, h]

/-- the unrepaired `push_vars` (pushing while validating) left cells behind: the full statement
    "a refused line leaves nothing behind" is false of it -/
theorem tryLineOld_leaves_cells :
    ∃ tys line l, tryLineOld tys line = .rejected l ∧ l ≠ [] :=
  ⟨[1, 1], "x,5".toList, [.int 1 5], by decide +kernel, by decide⟩

/-! ### the retry loop -/

/-- INPUT first shows its prompt, then "? " exactly when the question flag is set, then reads a line -/
theorem prompt_shown (r : Req) (lines : List Str) :
    ∃ more, callsOf (run r lines) =
      .print r.prompt :: (if r.question then [.print "? ".toList] else []) ++ [.input] ++ more :=
  runWith_calls_prefix tryLine r lines [] []

/-- any number of refused lines, each answered by "Redo from start" and the repeated prompt, then
    the first accepted line: exactly that line's cells are pushed and nothing else is left -/
theorem any_number_of_retries (r : Req) (bad : List Str) (good : Str) (rest : List Str) (p : List Cell)
    (hb : ∀ b ∈ bad, ∃ l, tryLine r.tys b = .rejected l) (hg : tryLine r.tys good = .accepted p) :
    run r (bad ++ good :: rest) = .done (retryCalls r bad.length ++ promptCalls r) p [] := by
  have hb' : ∀ b ∈ bad, tryLine r.tys b = .rejected [] := fun b hm => by
    obtain ⟨l, hl⟩ := hb b hm
    rwa [rejected_line_no_effect _ _ _ hl] at hl
  exact runWith_retries hg rest hb' [] []

/-! ### argument protocol -/

/-- the pops of `_exec_input` recover what `gen_input` pushed -/
theorem args_roundtrip (sl : Bool) (r : Req) (h : r.tys ≠ []) :
    decodeReq (encodeReq sl r).reverse = some (sl, r) := by
  have htake := takeInts_map r.tys.reverse
    [.int (if r.question then -1 else 0), .str r.prompt, .int (if sl then -1 else 0)]
  simp only [List.length_reverse, List.map_reverse] at htake
  simpa [encodeReq, decodeReq, htake] using h

-- non-vacuity
example : tryLine [1, 5, 4] " 12 , hello ,1.5".toList =
    .accepted [.flt 4 "1.5".toList, .str "hello".toList, .int 1 12] := by decide +kernel
example : tryLine [1, 1] "x,5".toList = .rejected [] := by decide +kernel
example : tryLine [1] "40000".toList = .rejected [] := by decide +kernel

end Qbee.Input
