import QbeeModel.Lemmas.Tick
import QbeeModel.Lemmas.Arith
/-
  C07  The virtual machine is total: every run ends in a halt or a trap.  Property theorems only.

  Proved over the control skeleton (Model/Tick.lean, any instruction semantics) and the typed arithmetic
  (Model/Arith.lean).  Instructions outside those models (strings, arrays, devices, float ^) are covered by the
  search for host exceptions on generated programs, not by a theorem.
-/
namespace Qbee.Tick

def Armed (s : St) : Prop := ∃ a, s.target = .addr a

/-- an interrupt request pending at an instruction boundary, with no handler armed (or the handler already
    running), stops the run with the keyboard-interrupt error before any further instruction executes:
    whatever the next instruction is, pc does not move -/
theorem tick_interrupt (codeLen : Nat) (s : St) (ik : IK) (stmt : Option (Nat × Nat))
    (hi : s.interrupt = true) (hn : s.target = .off ∨ s.active = true) :
    tick codeLen s ik stmt = .st { s with interrupt := false, lastTrap := some KEYBOARD_INTERRUPT,
                                          halted := true, reason := .trap } := by
  rw [tick, if_pos hi]
  rcases hn with h | h <;> simp [trapDispatch, h]

/-- the interrupt is consumed: the flag is cleared in every case -/
theorem tick_interrupt_clears (codeLen : Nat) (s : St) (ik : IK) (stmt : Option (Nat × Nat))
    (hi : s.interrupt = true) :
    match tick codeLen s ik stmt with
    | .st s' => s'.interrupt = false
    | .host _ s' => s'.interrupt = false := by
  obtain ⟨s', h, hs'⟩ := trapDispatch_st { s with interrupt := false } KEYBOARD_INTERRUPT stmt none
  rw [tick, if_pos hi, h]
  exact hs'

/-- with no handler armed every error is fatal and reported: the run ends in the TRAP state -/
theorem unarmed_trap_halts (codeLen : Nat) (s : St) (code sz : Nat) (stmt : Option (Nat × Nat))
    (hi : s.interrupt = false) (ht : s.target = .off) :
    tick codeLen s (.traps code sz) stmt =
      .st { s with pc := s.pc + sz, prevPc := s.pc, lastTrap := some code, trappedAddr := s.pc, halted := true, reason := .trap } := by
  simp [tick, hi, trapDispatch, ht, endCheck]

/-- tick never lets an exception escape unless the instruction itself raises a host exception:
    Trapped and ZeroDivisionError always become a dispatched or reported trap -/
theorem tick_total (codeLen : Nat) (s : St) (ik : IK) (stmt : Option (Nat × Nat)) (cls : String) (s' : St)
    (h : tick codeLen s ik stmt = .host cls s') : ∃ c sz, ik = .host c sz :=
  (tick_st_or_host codeLen s ik stmt none).resolve_left fun ⟨s1, h1⟩ => by rw [h1] at h; cases h

end Qbee.Tick

namespace Qbee.Arith
open Qbee.Gen

/-- dividing by zero -- `/`, `\`, MOD on integral operands -- is reported as DIVISION_BY_ZERO -/
theorem division_by_zero_traps {F} (ops : FOps F) (t : Ty) (ht : t = .i ∨ t = .l) (a : Int) :
    binop ops .div (.int t a) (.int t 0) = .trap "DIVISION_BY_ZERO" ∧
    binop ops .idiv (.int t a) (.int t 0) = .trap "DIVISION_BY_ZERO" ∧
    binop ops .mod (.int t a) (.int t 0) = .trap "DIVISION_BY_ZERO" := by
  refine ⟨?_, ?_, ?_⟩ <;> rw [binop_int ops ht] <;> exact if_pos rfl

/-- a float division by zero is reported the same way -/
theorem float_division_by_zero_traps {F} (ops : FOps F) (t : Ty) (ht : t = .s ∨ t = .d) (x y : F)
    (hz : ops.isZero y = true) : binop ops .div (.flt t x) (.flt t y) = .trap "DIVISION_BY_ZERO" := by
  unfold binop
  rcases ht with rfl | rfl <;> simp [Cell.ty, isNumTy, hz]

/-- a result outside the range of its type is reported as INVALID_CELL_VALUE (numeric overflow) -/
theorem overflow_traps {F} (ops : FOps F) (t : Ty) (ht : t = .i ∨ t = .l) (n : Int) (h : inRange t n = false) :
    mk ops t (.int n) = .trap "INVALID_CELL_VALUE" := by
  rw [mk_int ops ht, h]; rfl

theorem mk_no_host {F} (ops : FOps F) (t : Ty) (ht : t ≠ .str) (r : Raw F) (cls : String) : mk ops t r ≠ .host cls := by
  -- every arm of `mk` but the first (t = .str) is `.ok` or `.trap` under `if`s and `match`es
  unfold mk
  split <;> first | exact absurd rfl ht | (repeat' split) <;> simp

/-- a float that is not finite (the host's silent result of an overflow) is refused by every numeric cell type: the
    run-time error the property calls numeric overflow -/
theorem non_finite_traps {F} (ops : FOps F) (t : Ty) (ht : t = .s ∨ t = .d) (x : F) (h : ops.isFinite x = false) :
    mk ops t (.flt x) = .trap "INVALID_CELL_VALUE" := by
  rcases ht with rfl | rfl <;> simp [mk, h]

/-- before the repair a DOUBLE cell took it (1D308 * 10 printed `inf`) -/
theorem double_overflow_was_silent {F} (x : F) : mkDoubleOld x = .ok (.flt .d x) := rfl

/-- on well-typed integral operands no arithmetic, logic or comparison instruction can raise a host exception:
    the outcome is a cell or a reported trap -/
theorem int_arith_no_host {F} (ops : FOps F) (op : BinOp) (t : Ty) (ht : t = .i ∨ t = .l) (a b : Int) (cls : String) :
    binop ops op (.int t a) (.int t b) ≠ .host cls := by
  have hk : ∀ (t' : Ty) (r : Raw F), t' ≠ .str → mk ops t' r ≠ .host cls := fun t' r h => mk_no_host ops t' h r cls
  have hti : t ≠ .str := by rcases ht with rfl | rfl <;> decide
  -- each row of `binop_int` is `mk` at a numeric type, `.ok` or `.trap`, under at most two `if`s
  rw [binop_int ops ht]
  cases op <;> dsimp only <;> (try split) <;> (try split) <;>
    first | exact hk _ _ hti | exact hk _ _ (by decide) | nofun

/-- on a well-formed cell of any type and value (infinities and NaN included; `hty`, `hti`: a float cell is SINGLE or DOUBLE, an
    integral one INTEGER or LONG) no unary instruction - negation, NOT, the comparison tests,
    ABS, SGN, CINT, CLNG, INT - can raise a host exception (as repaired: a non-finite value has no integer value and traps; on
    a string cell the comparison tests and SGN raised NameError while building their TYPE_MISMATCH trap) -/
theorem unop_no_host {F} (ops : FOps F) (op : UnOp) (a : Cell F) (hty : ∀ t x, a = .flt t x → t = .s ∨ t = .d)
    (hti : ∀ t x, a = .int t x → t = .i ∨ t = .l) (cls : String) : unop ops op a ≠ .host cls := by
  have hk : ∀ (t' : Ty) (r : Raw F), t' ≠ .str → mk ops t' r ≠ .host cls := fun t' r h => mk_no_host ops t' h r cls
  -- every arm of `unop` is `mk` at a numeric type, `.ok` or `.trap` (CINT, CLNG, INT on a float: under one `match`)
  cases a with
  | str s => cases op <;> dsimp only [unop] <;> simp
  | int t x =>
    rcases hti t x rfl with rfl | rfl <;> cases op <;> dsimp only [unop] <;> first | exact hk _ _ (by decide) | simp
  | flt t x =>
    rcases hty t x rfl with rfl | rfl <;> cases op <;> dsimp only [unop] <;>
      first | exact hk _ _ (by decide) | (split <;> first | exact hk _ _ (by decide) | simp) | simp

/-- the same for numeric cells (the hypothesis on the type is not needed) -/
theorem unop_numeric_no_host {F} (ops : FOps F) (op : UnOp) (a : Cell F) (ha : a.ty ≠ .str) (hty : ∀ t x, a = .flt t x → t = .s ∨ t = .d)
    (hti : ∀ t x, a = .int t x → t = .i ∨ t = .l) (cls : String) : unop ops op a ≠ .host cls :=
  unop_no_host ops op a hty hti cls

/-- comparing two cells of different types is a TYPE_MISMATCH trap (as repaired: the trap was built with a positional
    argument too many, a TypeError) -/
theorem cmp_mismatch_traps {F} (ops : FOps F) (a b : Cell F) (h : a.ty ≠ b.ty) : binop ops .cmp a b = .trap "TYPE_MISMATCH" := by
  unfold binop; simp [h]

/-- no conversion instruction can raise a host exception, whatever the cell -/
theorem conv_no_host {F} (ops : FOps F) (src dst : Ty) (hd : dst ≠ .str) (a : Cell F) (cls : String) :
    conv ops src dst a ≠ .host cls := by
  have hk : ∀ (r : Raw F), mk ops dst r ≠ .host cls := fun r => mk_no_host ops dst hd r cls
  unfold conv
  split
  · simp
  · cases a with
    | int t x => simp only; split <;> exact hk _
    | flt t x =>
      simp only
      split
      · split
        · exact hk _
        · simp
      · exact hk _
    | str s => simp

end Qbee.Arith
