import QbeeModel.Model.Print
/-
  C17  PRINT lays out items, print zones and line ends as QBASIC prescribes.
  The property theorems, with the two facts they share (`body_append`: one more item is one more `emit`; `padZone_spec`: the
  arithmetic of a print zone of any width).  All statements quantify over every item sequence.
-/
namespace Qbee.Print

/-- the decoding loop of `_exec_print` inverts what `gen_print_stmt` pushes -/
theorem args_roundtrip (items : List Item) : decodeArgs (encodeItems items) = some items := by
  fun_induction encodeItems items <;> simp [decodeArgs, *]

/-- the count pushed last equals the number of cells pushed before it -/
theorem nargs_eq_length (items : List Item) : (encodeItems items).length = nargs items := by
  fun_induction nargs items <;> simp +arith [encodeItems, *]

theorem body_append (pre : List Item) (it : Item) : body (pre ++ [it]) = emit (body pre) it := by
  simp [body, List.foldl_append]

/-- each numeric item is its number text followed by one blank -/
theorem layout_num (pre : List Item) (t : Str) : body (pre ++ [.num t]) = body pre ++ t ++ [' '] :=
  body_append pre (.num t)

/-- each string item is written verbatim -/
theorem layout_str (pre : List Item) (s : Str) : body (pre ++ [.str s]) = body pre ++ s :=
  body_append pre (.str s)

/-- a semicolon adds nothing -/
theorem layout_semi (pre : List Item) : body (pre ++ [.semi]) = body pre :=
  body_append pre .semi

/-- `w - n % w` blanks lead from column `n` to the next multiple of `w` -/
theorem padZone_spec {w : Nat} (hw : 0 < w) (n : Nat) : 1 ≤ w - n % w ∧ w - n % w ≤ w ∧ (n + (w - n % w)) % w = 0 := by
  have hm : n % w < w := Nat.mod_lt n hw
  refine ⟨Nat.sub_pos_of_lt hm, Nat.sub_le _ _, ?_⟩
  -- n + (w - n % w) = w + (n - n % w)
  rw [← Nat.add_sub_assoc (Nat.le_of_lt hm), Nat.add_comm, Nat.add_sub_assoc (Nat.mod_le n w), Nat.add_mod_left]
  exact Nat.sub_mod_eq_zero_of_mod_eq (Nat.mod_mod n w).symm

/-- a comma pads with 1..14 blanks to the next multiple of 14 columns -/
theorem layout_comma (pre : List Item) :
    ∃ k, body (pre ++ [.comma]) = body pre ++ blanks k ∧ 1 ≤ k ∧ k ≤ 14 ∧
         ((body pre).length + k) % 14 = 0 :=
  ⟨14 - (body pre).length % 14, body_append pre .comma, padZone_spec (by decide) _⟩

/-- the column after a comma is the *next* zone boundary: strictly beyond the
    current column and at most one zone away -/
theorem layout_comma_next_zone (pre : List Item) :
    (body pre).length < (body (pre ++ [.comma])).length ∧
    (body (pre ++ [.comma])).length ≤ (body pre).length + 14 ∧
    (body (pre ++ [.comma])).length % 14 = 0 := by
  obtain ⟨k, h, h1, h2, h3⟩ := layout_comma pre
  rw [h, List.length_append, blanks, List.length_replicate]
  exact ⟨Nat.lt_add_of_pos_right h1, Nat.add_le_add_left h2 _, h3⟩

/-- PRINT alone writes just a line break -/
theorem layout_empty : layout [] = crlf := rfl

/-- the output ends with a line break unless the statement ends in a separator -/
theorem layout_newline (pre : List Item) (last : Item) :
    layout (pre ++ [last]) =
      body (pre ++ [last]) ++ (if last.isSep then [] else crlf) := by
  simp only [layout, wantsNewline, List.getLast?_concat]
  cases last.isSep <;> rfl

theorem layout_trailing_sep (pre : List Item) :
    layout (pre ++ [.semi]) = body pre ∧
    ∃ k, layout (pre ++ [.comma]) = body pre ++ blanks k ∧ 1 ≤ k ∧ k ≤ 14 := by
  constructor
  · rw [layout_newline, layout_semi]; simp [Item.isSep]
  · obtain ⟨k, h, h1, h2, _⟩ := layout_comma pre
    exact ⟨k, by rw [layout_newline, h]; simp [Item.isSep], h1, h2⟩

/-- what reaches the terminal is a function of the decoded items only: two
    statements whose pushed cells decode to the same items print the same text -/
theorem layout_fn_of_items (a b : List Arg) (items : List Item)
    (ha : decodeArgs a = some items) (hb : decodeArgs b = some items) :
    (decodeArgs a).map layout = (decodeArgs b).map layout := by
  rw [ha, hb]

/-- end-to-end: pushing the items and decoding them prints `layout items` -/
theorem print_end_to_end (items : List Item) :
    (decodeArgs (encodeItems items)).map layout = some (layout items) := by
  rw [args_roundtrip]; rfl

-- non-vacuity: concrete sequences exercise the statements above
example : layout [.num " 1".toList, .comma, .str "ab".toList] =
    " 1 ".toList ++ blanks 11 ++ "ab\r\n".toList := by decide +kernel
example : (layout [.str "0123456789abcd".toList, .comma]).length = 28 := by decide +kernel

end Qbee.Print
