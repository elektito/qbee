import QbeeModel.Lemmas.Instr
import QbeeModel.Lemmas.Module
import QbeeModel.Lemmas.Tables
import QbeeModel.Gen.DisasmSizes
import QbeeModel.Gen.Cp437
/-
  C09  Binary module, loader, disassembler and assembly listing agree.  Property theorems only.
-/
namespace Qbee.Instr
open Qbee.Bytes Qbee.Gen

/-- the machine's decoder inverts the assembler's encoder, for every well-formed instruction -/
theorem decode_encode (i : Instr) (h : WFInstr i) (rest : List Nat) :
    decode (encode i ++ rest) = some (i, rest) :=
  decode_encode_lem i h rest

/-- decoding the whole code section recovers exactly the emitted instruction sequence -/
theorem decodeAll_encodeAll (is : List Instr) (h : ∀ i ∈ is, WFInstr i) :
    decodeAll (encodeAll is).length (encodeAll is) = some is :=
  decodeAll_encodeAll_fuel is _ h (length_le_encodeAll is)

/-- the unrepaired decoder read the literal index signed ('>h'): beyond 32767 the round trip failed -/
theorem lit_roundtrip_failed_before_repair :
    toSigned 2 (val (encOperand (.lit 32769))) = -32767 := by decide

/-- opcodes are pairwise distinct in the generated table (so `kindsOf` is the table) -/
theorem table_opcodes_distinct : (instrTable.map (·.2.1)).Nodup :=
  Tables.nodup_of_distinctVia id _ (by decide +kernel)

theorem table_mnemonics_distinct : (instrTable.map (·.1)).Nodup :=
  -- key: a 16-bit hash of the name's UTF-8 bytes, the cheapest thing the kernel gets out of a string literal
  -- (`String.toList` decodes them again); only names whose keys collide are compared as strings
  Tables.nodup_of_distinctVia (fun s => s.toByteArray.data.toList.foldl (fun a b => (a * 31 + b.toNat) % 65536) 0) _
    (by decide +kernel)

theorem table_opcodes_are_bytes : ∀ e ∈ instrTable, e.2.1 < 256 := by decide +kernel

/-- operand sizes in the table agree with the sizes the operand classes declare -/
theorem table_sizes : ∀ p ∈ opKindSizes, kindSize p.1 = p.2 := by decide

-- non-vacuity
example : WFInstr ⟨39, [.i16 (-5)]⟩ :=
  ⟨by decide, by decide +kernel, List.forall_mem_singleton.2 ⟨by decide, by decide⟩⟩
example : decode (encode ⟨39, [.i16 (-5)]⟩ ++ [100]) = some (⟨39, [.i16 (-5)]⟩, [100]) := by decide +kernel

/-- bytes the hand-written if/elif chain of QModule.disassemble consumes for an opcode
    (generated by running it) = 1 + the operand sizes of the instruction table, for every opcode -/
theorem disasm_agrees :
    ∀ e ∈ instrTable, (disasmSizes.lookup e.2.1) = some (1 + (e.2.2.map kindSize).sum) := by
  -- both tables are written by the same loop over `instrs.instructions` (harness/gen_tables.py), so they correspond
  -- entry by entry: the one place where a proof relies on the order of a generated table
  have h : disasmSizes = instrTable.map fun e => (e.2.1, 1 + (e.2.2.map kindSize).sum) := by decide +kernel
  rw [h]
  exact Tables.lookup_map_of_nodup _ _ _ table_opcodes_distinct

/-- cp437 decoding is injective on the 256 byte values: a literal's text determines its bytes -/
theorem cp437_injective : cp437.Nodup := Tables.nodup_of_distinctVia id _ (by decide +kernel)

theorem cp437_total : cp437.length = 256 := by decide +kernel

end Qbee.Instr

namespace Qbee.Module
open Qbee.Bytes

/-- loading recovers exactly the string literals the compiler emitted -/
theorem literals_roundtrip (ls : List (List Nat)) (h : WFLiterals ls) :
    parseLiterals (serLiterals ls).length (serLiterals ls) = some ls :=
  parseLiterals_ser ls _ h (serLiterals_length_ge ls)

/-- loading recovers exactly the DATA items, part by part, empty ones included -/
theorem data_roundtrip (d : List (List Item)) (h : WFData d) : parseData (serData d) = some d := by
  have := parseParts_ser d [] h.2
  rw [List.append_nil] at this
  simp only [parseData, serData, takeN_be, val_be 2 _ h.1, this]

-- non-vacuity.  `WFData` leaves out what cannot be written at all: the number of items of a part is written signed ('>h')
-- and read unsigned ('>H'), and a part with 32768 items or more makes struct.pack raise
example : WFData [[none, some [65, 66]], [some []]] := by simp [WFData, WFItem, AllBytes]

end Qbee.Module
