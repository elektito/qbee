import QbeeModel.Props.C03
import QbeeModel.Lemmas.Asm
/-
  C06  The compiler is total: any text yields a module or a diagnostic.  Property theorems only.

  PARTIAL.  Proved for the modelled stages: (1) every expression the static check accepts has code - the generator has a
  row for each accepted operator / operand-type combination and it did not raise while the table was extracted
  (Gen/ExprTables.lean is regenerated on every run; a raising generator leaves a 9998 marker that the kernel-decided
  `allBinOk` / `allUnOk` reject); (2) the assembler's two passes succeed on every symbolic stream whose label operands
  are defined, and fail only on an undefined label.  The pyparsing grammar, the statement-level passes and the
  statement code generators are NOT modelled: totality there is searched (harness/checks/c06.py), not proved.
  `labelNames` (the labels a stream defines) and `labelOperands` (those it refers to) are defined in Lemmas/Asm.lean.
-/
namespace Qbee.C06
open Qbee.Gen Qbee.ExprC Qbee.Asm

/-- every accepted expression tree, of any depth, compiles -/
theorem accepted_expression_compiles (e : E) (t : Ty) (h : ty e = some t) : ∃ code, compileE e = some code := by
  obtain ⟨code, hc, _⟩ := compileE_stack_typed e t h
  exact ⟨code, hc⟩

/-- a rejected expression is rejected by the static check, never by the code generator: compileE fails only where
    `ty` does -/
theorem expression_compile_fails_only_on_type_error (e : E) (h : compileE e = none) : ty e = none := by
  cases ht : ty e with
  | none => rfl
  | some t =>
    obtain ⟨code, hc⟩ := accepted_expression_compiles e t ht
    rw [h] at hc; cases hc

/-- the assembler is total on every stream whose label operands are defined somewhere in the stream
    (any number of instructions, labels, markers; forward and backward references) -/
theorem assemble_total (s : List SI) (h : ∀ n ∈ labelOperands s, n ∈ labelNames s) : ∃ bytes, assemble s = some bytes :=
  Option.isSome_iff_exists.1 ((assemble_isSome s).2 h)

/-- ... and it fails only because of an undefined label -/
theorem assemble_fails_only_on_undefined_label (s : List SI) (h : assemble s = none) :
    ∃ n ∈ labelOperands s, n ∉ labelNames s := by
  simpa [h] using not_congr (assemble_isSome s)

/-- non-vacuity: a forward jump assembles; a jump to a missing label does not -/
example : assemble [.ins 1 [.lbl "a"], .label "a", .ins 2 []] = some [1, 0, 0, 0, 5, 2] := by decide +kernel
example : assemble [.ins 1 [.lbl "b"], .label "a"] = none := by decide +kernel

end Qbee.C06
