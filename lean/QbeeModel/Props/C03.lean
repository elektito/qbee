import QbeeModel.Lemmas.ExprC
import QbeeModel.Lemmas.StmtDepth
/-
  C03  Accepted programs are type- and stack-safe on the virtual machine.  Property theorems only.
-/
namespace Qbee.ExprC
open Qbee.Gen

/-- OBLIGATION over the generated tables (re-checked whenever BinaryOp.type, Pass2's operator check, gen_binary_op or a
    machine instruction's type rule changes): every accepted operator/type pair is compiled to code that brings both
    operands to one type the instruction accepts and leaves the static result type -/
theorem allBinOk_true : allBinOk = true := allBinOk_lem
theorem allUnOk_true : allUnOk = true := allUnOk_lem

/-- the code generated for a well-typed expression (every operator application accepted by the
    static check), run on ANY stack, leaves that stack with exactly one more entry, whose type is the
    expression's static type: no operand-type confusion, no underflow, no leftover -/
theorem compileE_stack_typed : ∀ (e : E) (t : Ty), ty e = some t →
    ∃ code, compileE e = some code ∧ ∀ st, absRun code st = some (t :: st)
  | .atom t0, t, h => by
    cases h
    exact ⟨[tyMark t0], rfl, fun st => by simp only [absRun, absStep_mark]⟩
  | .bin op a b, t, h => by
    obtain ⟨l, r, code, hta, htb, hrow, hok⟩ := ty_bin_some h
    obtain ⟨cl, cr, l', hsp, hcl, hcr⟩ := binOkRow_some hok
    obtain ⟨ca, hca, hra⟩ := compileE_stack_typed a l hta
    obtain ⟨cb, hcb, hrb⟩ := compileE_stack_typed b r htb
    refine ⟨ca ++ cl ++ cb ++ cr, by simp only [compileE, hta, htb, hca, hcb, hrow, hsp], fun st => ?_⟩
    -- operand, conversion, operand, conversion and operator: each piece runs on top of `st`
    have f1 : absRun cl (l :: st) = some (l' :: st) := absRun_frame cl [l] [l'] st hcl
    have f2 : absRun cr (r :: l' :: st) = some (t :: st) := absRun_frame cr [r, l'] [t] st hcr
    simp only [absRun_append, hra, f1, hrb, f2, Option.bind_some]
  | .un op a, t, h => by
    obtain ⟨ta, code, hta, hrow, hok⟩ := ty_un_some h
    obtain ⟨c, hsp, hc⟩ := unOkRow_some hok
    obtain ⟨ca, hca, hra⟩ := compileE_stack_typed a ta hta
    refine ⟨ca ++ c, by simp only [compileE, hta, hca, hrow, hsp], fun st => ?_⟩
    have f : absRun c (ta :: st) = some (t :: st) := absRun_frame c [ta] [t] st hc
    simp only [absRun_append, hra, f, Option.bind_some]

-- non-vacuity: (INTEGER + DOUBLE) < SINGLE is well typed, its code is the generator's, result INTEGER
example : ty (.bin 10 (.bin 1 (.atom .i) (.atom .d)) (.atom .s)) = some .i := by decide
example : compileE (.bin 1 (.atom .i) (.atom .d)) = some [2000, 8, 2003, 2] := by decide

end Qbee.ExprC

namespace Qbee.StmtDepth

/-- "at every statement boundary the operand stack is back at the depth it had when the routine was entered plus one entry
    per active GOSUB": the depth the machine's bookkeeping (Model/StmtDepth.lean) cuts the stack back to when an error is
    handled is that depth, for a frame whose GOSUB return addresses lie directly on the routine's own -/
theorem statement_boundary_depth (f : Frame) (n : Nat) (h : f.marks = consec f.base n) : stmtDepth f = f.base + 1 + n :=
  stmtDepth_consec f n h

/-- the error-handling path keeps that depth: a handled error never leaves more on the stack than a statement boundary has -/
theorem handled_error_reaches_boundary_depth (s : St) (f : Frame) (rest : List Frame) (hf : s.frames = f :: rest) :
    (step s .handledNext).depth ≤ stmtDepth f := by
  simp only [step, hf]
  exact Nat.min_le_right _ _

example : stmtDepth { base := 3, marks := consec 3 2 } = 6 := by decide

end Qbee.StmtDepth
