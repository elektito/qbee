import QbeeModel.Lemmas.Using
/-
  C19  PRINT USING fields keep their width, rounding and overflow mark.  Property theorems only.
  Python's `format(abs(value), ',.Nf')` is an external contract: `body` below is its result.  `signOf`, `Fits`
  and `expected` (the text the property prescribes for a format and its values) are defined in Lemmas/Using.lean.
-/
namespace Qbee.Using

/-- fits => exactly the width of the field, right-aligned, sign directly before the digits -/
theorem num_width (sp : NumSpec) (neg : Bool) (body : Str) (hb : sp.signEnd = false) (h : Fits sp body) :
    renderCore sp neg body = blanks (sp.width - (body.length + 1)) ++ signOf sp neg :: body ∧
    (renderCore sp neg body).length = sp.width :=
  ⟨by simp [renderCore_of_fits neg h, withSign, hb], length_renderCore_of_fits neg h⟩

/-- a non-negative value in a field without '+' may use the sign position for a digit -/
theorem num_width_uses_sign_position (sp : NumSpec) (body : Str) (hb : sp.signEnd = false)
    (hs : sp.signChar ≠ some '+') (h : body.length = sp.width) :
    renderCore sp false body = body := by
  rw [renderCore_eq, if_neg (by omega)]
  simp [signOf, hs, h]

/-- only a value that cannot fit is widened, and then it is marked with a leading '%' -/
theorem overflow_mark (sp : NumSpec) (neg : Bool) (body : Str) (hb : sp.signEnd = false)
    (h : sp.width < body.length + (if signOf sp neg = ' ' then 0 else 1)) :
    ∃ rest, renderCore sp neg body = '%' :: rest ∧ sp.width < rest.length ∧ rest.drop (rest.length - body.length) = body := by
  have hw : ¬ body.length + 1 ≤ sp.width := by split at h <;> omega
  rw [renderCore_eq, if_neg hw]
  by_cases hs : signOf sp neg = ' '
  · rw [if_pos hs, Nat.add_zero] at h
    exact ⟨body, by simp [hs, h], h, by simp⟩
  · exact ⟨signOf sp neg :: body, by simp [hs, withSign, hb], by simp; omega, by simp⟩

/-- a field with a trailing sign: the digits right-aligned in front of the sign position, which is the last one
    (as repaired: a blank was put in front of non-negative values) -/
theorem num_width_trailing_sign (sp : NumSpec) (neg : Bool) (body : Str) (hb : sp.signEnd = true) (h : Fits sp body) :
    renderCore sp neg body = blanks (sp.width - (body.length + 1)) ++ body ++ [signOf sp neg] ∧
    (renderCore sp neg body).length = sp.width :=
  ⟨by simp [renderCore_of_fits neg h, withSign, hb], length_renderCore_of_fits neg h⟩

/-- the rendered field is the core applied to the number text with its edge point: "##." shows the point, ".##" drops the
    zero that has no position -/
theorem edge_points (sp : NumSpec) (neg : Bool) (body : Str) :
    renderNum sp neg body = renderCore sp neg (adjustPoint sp body) ∧
    (sp.decimalPoint.isSome = true → sp.decimalsN = 0 → adjustPoint sp body = body ++ ['.']) ∧
    (sp.decimalPoint = none → adjustPoint sp body = body) := by
  refine ⟨rfl, ?_, ?_⟩
  · intro h1 h2; simp [adjustPoint, h1, h2]
  · intro h1; simp [adjustPoint, h1]

/-- the scanner counts the decimals of a field with a trailing sign without the sign position
    (as repaired: "#.##-" asked for three decimals) -/
example : (parseNumeric "#.##-".toList).1.decimals = some 2 ∧ (parseNumeric "#.##-".toList).1.width = 5 := by decide +kernel
example : renderNum (parseNumeric "#.##-".toList).1 false "1.23".toList = "1.23 ".toList := by decide +kernel
example : renderNum (parseNumeric "###-".toList).1 false "100".toList = "100 ".toList := by decide +kernel
example : renderNum (parseNumeric ".##".toList).1 false "0.50".toList = ".50".toList := by decide +kernel
example : renderNum (parseNumeric "##.".toList).1 false "5".toList = " 5.".toList := by decide +kernel
example : scanFmt "#-#".toList = .ok [.num (parseNumeric "#-".toList).1, .num (parseNumeric "#".toList).1] := by decide +kernel

/-- "&" prints the whole string, "!" its first character -/
theorem amp_bang (s : Str) (c : Char) (r : Str) :
    format [.str '&'] [.str s] = .ok s ∧ format [.str '!'] [.str (c :: r)] = .ok [c] :=
  ⟨rfl, rfl⟩

/-- a format string without field or escape characters is one literal part, printed unchanged -/
theorem literal_copied (s : Str) (h : ∀ c ∈ s, isSpecial c = false) :
    scanFmt s = .ok (flush s) ∧ format (flush s) [] = .ok s := by
  constructor
  · simpa [scanFmt] using scan_literal s (2 * s.length + 2) false [] (by omega) h
  · unfold flush; split
    · next he => simp at he; simp [format, fmtLoop, he]
    · simp [format, fmtLoop]

/-- a character escaped with an underscore is copied as a literal, whatever it is -/
theorem escape_copied (c : Char) : scanFmt ['_', c] = .ok [.non [c]] := by
  simp [scanFmt, scan, flush, startsField]

/-! ### values are consumed left to right, one per field -/

/-- values are consumed left to right, one per field; literals are copied between them -/
theorem consume_in_order (ps : List Part) (vals : List Val) (txt : Str)
    (h : expected ps vals = some txt) : format ps vals = .ok txt :=
  fmtLoop_expected ps.length vals ps 0 [] txt (Nat.le_of_eq (Nat.zero_add _)) h

-- non-vacuity
example : Fits (parseNumeric "###.##".toList).1 "12.35".toList := by unfold Fits; decide +kernel
example : renderNum (parseNumeric "###.##".toList).1 false "12.35".toList = " 12.35".toList := by decide +kernel
example : renderNum (parseNumeric "##".toList).1 true "123".toList = "%-123".toList := by decide +kernel
example : scanFmt "a_#b &".toList = .ok [.non "a#b ".toList, .str '&'] := by decide +kernel
example : expected [.non ['x'], .num (parseNumeric "##".toList).1, .str '&'] [.num false ['7'], .str ['s']] =
    some "x 7s".toList := by decide +kernel

end Qbee.Using
