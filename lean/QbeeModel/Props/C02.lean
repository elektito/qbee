import QbeeModel.Lemmas.Fold
import QbeeModel.Model.ExprSem
/-
  C02  Optimisation and compile-time evaluation never change behaviour.  Property theorems only.

  Proved: compile-time evaluation of INTEGER/LONG constant expressions (every arithmetic, logic and comparison
  operator) gives the value and type the machine computes, and gives up exactly when the machine traps; the
  value-level content of the peephole rules push+conv, push+unary, push+push+binary-op on integral operands.
  Not proved (validated by differential runs of levels 0-3): float folding, the jump/halt rules, whole-program lifting.
-/
namespace Qbee.Fold
open Qbee.Gen Qbee.Arith Qbee.ExprSem

/-- a folded INTEGER / LONG constant has exactly the value and type that the machine computes at run time -/
theorem fold_agrees_int {F} (ops : FOps F) (op : BinOp) (hop : IntOp op) (t : Ty) (ht : t = .i ∨ t = .l)
    (a b n : Int) (t' : Ty) (h : foldInt op t a b = .lit t' n) :
    binop ops op (.int t a) (.int t b) = .ok (.int t' n) := by
  simp only [binop_eq_foldInt ops hop ht, h]

/-- whenever the folder gives up, the machine traps with the matching error (overflow, division by zero): the expression
    that is kept fails at run time as it must -/
theorem fold_never_invents_failure {F} (ops : FOps F) (op : BinOp) (hop : IntOp op) (t : Ty) (ht : t = .i ∨ t = .l)
    (a b : Int) (h : foldInt op t a b = .unfolded) :
    binop ops op (.int t a) (.int t b) = .trap "INVALID_CELL_VALUE" ∨
    binop ops op (.int t a) (.int t b) = .trap "DIVISION_BY_ZERO" := by
  simp only [binop_eq_foldInt ops hop ht, h]
  split
  · exact Or.inr rfl
  · exact Or.inl rfl

/-- comparisons of integral constants fold to the INTEGER the machine's cmp leaves -/
theorem fold_cmp_agrees {F} (ops : FOps F) (t : Ty) (ht : t = .i ∨ t = .l) (a b : Int) :
    ∃ n, foldInt .cmp t a b = .lit .i n ∧ binop ops .cmp (.int t a) (.int t b) = .ok (.int .i n) :=
  ⟨_, rfl, binop_int ops ht .cmp a b⟩

/-- unary minus / NOT on an integral constant: folded value = run-time value; no fold on overflow -/
theorem fold_unary_agrees {F} (ops : FOps F) (neg : Bool) (t : Ty) (ht : t = .i ∨ t = .l) (a : Int) :
    (∀ t' n, foldUnInt neg t a = .lit t' n → unop ops (if neg then .neg else .not) (.int t a) = .ok (.int t' n)) ∧
    (foldUnInt neg t a = .unfolded → unop ops (if neg then .neg else .not) (.int t a) = .trap "INVALID_CELL_VALUE") := by
  rw [unop_eq_foldUnInt ops neg ht]
  exact ⟨fun t' n h => by simp only [h], fun h => by simp only [h]⟩

/-- peephole rule push+conv between integral types, for any opcode that decodes to the conversion: replacing the pair by
    one push of a value that fits the destination leaves the same cell -/
theorem ph_push_conv {F} (ops : FOps F) {s d : Ty} (hd : d = .i ∨ d = .l) {a : Int} (hr : inRange d a = true)
    {code : Nat} (hc : decodeOp code = some (.conv s d)) (rest : List (CI F)) (st : List (Cell F)) :
    runC ops (.push (.int s a) :: .op code :: rest) st = runC ops (.push (.int d a) :: rest) st := by
  have hconv : conv ops s d (.int s a) = .ok (.int d a) := by rw [conv_int ops s hd, mk_int ops hd, hr]; rfl
  simp only [runC, hc, applyOp3, hconv, Res.bind]

/-- the rule as the optimiser applies it: opcode 6 is `conv%&`, 9 is `conv&%`; between equal types it does nothing -/
theorem ph_push_conv_int {F} (ops : FOps F) (s d : Ty) (hs : s = .i ∨ s = .l) (hd : d = .i ∨ d = .l) (a a' : Int)
    (h : phConvInt d a = some a') (rest : List (CI F)) (st : List (Cell F)) :
    runC ops (.push (.int s a) :: .op (match s, d with | .i, .l => 6 | .l, .i => 9 | _, _ => 0) :: rest) st =
      (if s = d then runC ops (.push (.int s a) :: .op 0 :: rest) st else runC ops (.push (.int d a') :: rest) st) := by
  obtain ⟨hr, rfl⟩ : inRange d a = true ∧ a = a' := by
    unfold phConvInt at h; split at h <;> simp_all
  rcases hs with rfl | rfl <;> rcases hd with rfl | rfl
  · rfl
  · exact ph_push_conv ops (.inr rfl) hr rfl rest st
  · exact ph_push_conv ops (.inl rfl) hr rfl rest st
  · rfl

/-- peephole rule push+push+binary-op on integral operands: the folded push leaves the same stack,
    for every continuation `rest` and every stack beneath -/
theorem ph_push_push_binop_int {F} (ops : FOps F) (op : BinOp) (hop : IntOp op) (t : Ty) (ht : t = .i ∨ t = .l)
    (a b n : Int) (t' : Ty) (code : Nat) (hc : decodeOp code = some (.bin op))
    (h : foldInt op t a b = .lit t' n) (rest : List (CI F)) (st : List (Cell F)) :
    runC ops (.push (.int t a) :: .push (.int t b) :: .op code :: rest) st =
      runC ops (.push (.int t' n) :: rest) st := by
  simp only [runC, hc, applyOp3, fold_agrees_int ops op hop t ht a b n t' h, Res.bind]

/-- peephole rule push+unary on an integral operand -/
theorem ph_push_unary_int {F} (ops : FOps F) (neg : Bool) (t : Ty) (ht : t = .i ∨ t = .l) (a n : Int) (t' : Ty)
    (code : Nat) (hc : decodeOp code = some (.un (if neg then .neg else .not)))
    (h : foldUnInt neg t a = .lit t' n) (rest : List (CI F)) (st : List (Cell F)) :
    runC ops (.push (.int t a) :: .op code :: rest) st = runC ops (.push (.int t' n) :: rest) st := by
  simp only [runC, hc, applyOp3, (fold_unary_agrees ops neg t ht a).1 t' n h, Res.bind]

/-- the folder converts a float operand of an integral operation exactly as the machine's conv instruction does
    (round half to even FIRST, then the range check): same value, and it gives up exactly when conv traps -/
theorem fold_operand_conv_agrees {F} (ops : FOps F) (src t : Ty) (hs : src = .s ∨ src = .d) (ht : t = .i ∨ t = .l) (x : F) :
    (∀ n, foldOperandFromFloat ops t x = some n → conv ops src t (.flt src x) = .ok (.int t n)) ∧
    (foldOperandFromFloat ops t x = none → ∀ c, conv ops src t (.flt src x) ≠ .ok c) := by
  have hconv : conv ops src t (.flt src x) = match foldOperandFromFloat ops t x with
      | some n => .ok (.int t n)
      | none => .trap "INVALID_CELL_VALUE" := by
    have hi : isIntTy t = true := by rcases ht with rfl | rfl <;> rfl
    simp only [conv, Cell.ty, hi, foldOperandFromFloat, mk_int ops ht]
    cases ops.roundEven x with
    | none => simp
    | some n => by_cases h : inRange t n = true <;> simp [h]
  rw [hconv]
  exact ⟨fun n h => by simp only [h], fun h c => by simp [h]⟩

/-- before the repair `limit` used the 64-bit c_long for LONG: 2000000000 + 2000000000 was folded
    although the machine overflows -/
theorem long_overflow_was_folded_before_repair :
    Int.emod ((2000000000 + 2000000000 : Int) + 9223372036854775808) 18446744073709551616 - 9223372036854775808
      = 4000000000 ∧ foldInt .add .l 2000000000 2000000000 = .unfolded := by decide

example : foldInt .add .i 32767 1 = .unfolded := by decide
example : foldInt .idiv .l (-7) 2 = .lit .l (-3) := by decide
example : foldInt .mod .i (-7) 3 = .lit .i (-1) := by decide
example : IntOp .idiv := by unfold IntOp; simp

end Qbee.Fold
