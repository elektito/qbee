import QbeeModel.Lemmas.Digits
/-
  C16  Numbers survive conversion to text and back.  Property theorems only.

  INTEGER and LONG: proved outright for every Int (hence for all 65 536 INTEGER
  and all 2^32 LONG values).  SINGLE/DOUBLE: the digits come from CPython's
  `repr`/`round` (external contract); what is proved is the string surgery of
  `format_number` on every possible `repr` text.
-/
namespace Qbee.NumFmt

/-- PRINT / STR$ text of an INTEGER or LONG: plain decimal form (Lean's own `toString` for `Int`
    is the reference for "plain decimal"), with a leading blank for non-negative values and the
    minus sign otherwise. -/
theorem fmtInt_shape (i : Int) :
    fmtInt i = (if 0 ≤ i then [' '] else []) ++ (toString i).toList := by
  rw [fmtInt, ← intText_eq_toString]
  split <;> rfl

/-- negative numbers start with '-', non-negative ones with a blank; the digits that follow are
    the decimal digits of |i|: a number and its negation show the same digits -/
theorem fmtInt_digits (i : Int) : (fmtInt i).tail = natText i.natAbs := by
  cases i with
  | ofNat n => simp [fmtInt, intText]
  | negSucc n =>
    have : ¬ (0 ≤ Int.negSucc n) := by omega
    simp [fmtInt, this, intText, Int.natAbs]

theorem neg_same_digits (i : Int) : (fmtInt (-i)).tail = (fmtInt i).tail := by
  rw [fmtInt_digits, fmtInt_digits, Int.natAbs_neg]

/-- READ and INPUT (Python `int()` on the item / field text) give the value back -/
theorem pyInt_fmtInt (i : Int) : pyInt (fmtInt i) = .ok i := by
  rw [apply_fmtInt pyInt pyInt_blank_cons, pyInt_intText]

def InLong (i : Int) : Prop := -2147483648 ≤ i ∧ i ≤ 2147483647

/-- VAL gives the value back (`_exec_sdbl` then converts the integer to DOUBLE exactly) -/
theorem valParse_fmtInt (i : Int) (h : InLong i) : valParse (fmtInt i) = .int i := by
  rw [apply_fmtInt valParse valParse_blank_cons, valParse_intText, if_neg (by unfold InLong at h; omega)]

/-! ### SINGLE / DOUBLE: the surgery of `format_number`, for every `repr` text -/

/-- the text never contains a lower-case `e`: exponent form uses `D` (DOUBLE) or `E` (SINGLE) -/
theorem fmtFloat_exponent_letter (isD : Bool) (r : Str) (nn : Bool) :
    'e' ∉ fmtFloat isD r nn := by
  rw [fmtFloat_eq, List.mem_append, not_or]
  exact ⟨by cases nn <;> decide, replaceE_no_e _ (by cases isD <;> decide) _⟩

/-- plain form: a repr text without exponent that does not end in ".0" is shown unchanged after
    the sign position -/
theorem fmtFloat_plain (isD : Bool) (r : Str) (h1 : 'e' ∉ r) (h2 : endsWithDotZero r = false) :
    fmtFloat isD r true = ' ' :: r ∧ fmtFloat isD r false = r := by
  simp [fmtFloat_eq, stripDotZero_eq_self h2, replaceE_eq_self h1]

/-- integral values: repr ends in ".0", which is dropped -/
theorem fmtFloat_strips_dot_zero (isD : Bool) (ip : Str) (h1 : 'e' ∉ ip) :
    fmtFloat isD (ip ++ ['.', '0']) true = ' ' :: ip := by
  simp [fmtFloat_eq, stripDotZero_append, replaceE_eq_self h1]

/-- CPython's `repr(-x)` is `'-' ++ repr(x)`; the surgery keeps that: a number and its negation
    show the same characters after the sign position -/
theorem fmtFloat_neg_same_digits (isD : Bool) (r : Str) :
    fmtFloat isD ('-' :: r) false = '-' :: (fmtFloat isD r true).tail := by
  simp [fmtFloat_eq, stripDotZero_cons, replaceE]

example : fmtFloat true "1e+16".toList true = " 1D+16".toList := by decide +kernel
example : fmtFloat false "2.5".toList true = " 2.5".toList := by decide +kernel
example : fmtFloat true "-3.0".toList false = "-3".toList := by decide +kernel


-- non-vacuity
example : fmtInt (-32768) = "-32768".toList := by decide +kernel
example : valParse (fmtInt 2147483647) = .int 2147483647 := by decide +kernel
example : InLong (-2147483648) := by unfold InLong; omega

end Qbee.NumFmt
