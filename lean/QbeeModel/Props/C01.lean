import QbeeModel.Lemmas.ExprSem
import QbeeModel.Lemmas.Arith
import QbeeModel.Lemmas.Src
import QbeeModel.Lemmas.SrcFuel
/-
  C01  Compiled programs do what their QBASIC source says.  Property theorems only.

  Expressions: `compileC_correct` -- every operator, every operand-type pair the static check accepts, implicit
  conversions, all leaf values, any nesting depth, any stack beneath, all float operation records: compiled code computes the
  reference semantics `refEval`, which applies at every node the operand-type rule of the language (`specTy`) and the
  operator at that type with the machine's arithmetic (Model/Arith.lean: range checks, division by zero, `\` and MOD truncating
  toward zero as the language prescribes: `idiv_is_truncation`; the repaired deviation is kept as a witness).
  Statements, control flow, procedures and arrays: the theorems of the second half state what the reference semantics of
  Model/Src.lean prescribes for the constructs the property names; that compiled PROGRAMS follow it is not a theorem but the
  differential runs of the check (six configurations), with C03/C04/C15/C17/C18 for their parts.
-/
namespace Qbee.ExprSem
open Qbee.Gen Qbee.ExprC Qbee.Arith

/-- OBLIGATION over the regenerated tables: for every accepted operator/type pair the generator emits exactly
    "convert left operand to T; … ; convert right operand to T; operator instruction(s)" with T given by the
    language's operand-type rule `specTy` -/
theorem allSpecOk_true : allSpecOk = true := allSpecOk_lem

/-- OBLIGATION: the opcode numbers used by the model are those of the regenerated instruction table -/
theorem decodeTableOk_true : decodeTableOk = true := decodeTableOk_lem

/-- Compilation preserves meaning, for every expression tree over all operators and operand types the static
    check accepts, all leaf values, all float operation records, and any stack beneath: running the generated code
    yields exactly what the reference semantics prescribes -- the value with its type pushed on the stack, or the
    same error (division by zero, overflow) -/
theorem compileC_correct {F} (ops : FOps F) : ∀ (e : CE F) (t : Ty), ty e.erase = some t →
    ∃ code, compileC e = some code ∧
      ∀ st, runC ops code st = Res.bind (refEval ops e) (fun v => .ok (v :: st)) := fun e t h =>
  let ⟨code, hc, hrun⟩ := compileC_run ops e t h
  ⟨code, hc, fun st => by simpa [runC] using hrun [] st⟩


/-! ### integer division is QBASIC's -/

/-- the machine's and the folder's `\` (as repaired) is truncated division and their MOD its remainder, for all operands -/
theorem idiv_is_truncation (a b : Int) : qbIDiv a b = Int.tdiv a b ∧ qbMod a b = Int.tmod a b := by
  unfold qbIDiv qbMod
  -- `Int.tdiv` and `Int.tmod` are defined by the same four cases on the signs
  have neg : ∀ m : Nat, Int.negSucc m < 0 := Int.negSucc_lt_zero
  have pos : ∀ m : Nat, ¬ (m : Int) < 0 := fun m => Int.not_lt.mpr (Int.natCast_nonneg m)
  rcases a with m | m <;> rcases b with n | n <;> simp [neg, pos, Int.tdiv, Int.tmod]

/-- the defect that was repaired, kept as a witness: Python's floored operators differ from QBASIC's on negative operands -/
theorem floored_division_was_wrong : pyFloorDiv (-7) 2 = -4 ∧ Int.tdiv (-7) 2 = -3 ∧
    pyMod (-7) 2 = 1 ∧ Int.tmod (-7) 2 = -1 := by decide

-- non-vacuity: (3% + 4%) < 9& is accepted by the static check, with result type INTEGER
example : ty (CE.bin 10 (CE.bin 1 (CE.leaf (.int .i 3)) (CE.leaf (.int .i 4))) (CE.leaf (.int .l 9)) : CE Nat).erase = some .i := by decide

end Qbee.ExprSem

/-! ### statement level: the reference semantics of structured control flow (Model/Src.lean)

  The correspondence of harness/checks/c01.py runs generated structured programs through this interpreter and through the
  real compiler + machine in all six configurations.  The lemmas below state what the reference semantics itself
  prescribes for the constructs the property names. -/
namespace Qbee.Src

/-- EXIT DO ends exactly the DO loop whose body raised it: the loop returns normally, with the state at the EXIT -/
theorem exit_do_leaves_this_loop (procs : List Proc) (fuel : Nat) (env : Env) (out : List Int) (post : Expr) (qk : Nat) (body : List Stmt) (res : Res)
    (hb : execList procs fuel env out body = some res) (hs : res.sig = .exitDo) :
    loopDo procs (fuel + 1) env out 0 (.lit 0) qk post body = some ⟨res.env, res.out, .normal⟩ := by
  simp [loopDo, hb, hs]

/-- ... and an enclosing FOR loop does not swallow it: EXIT DO inside a FOR inside a DO leaves the DO -/
theorem for_passes_exit_do (procs : List Proc) (fuel : Nat) (env : Env) (out : List Int) (v : Nat) (lim st : Int) (body : List Stmt) (res : Res)
    (hin : ((decide (st ≥ 0) && decide (getVar env v > lim)) || (decide (st < 0) && decide (getVar env v < lim))) = false)
    (hb : execList procs fuel env out body = some res) (hs : res.sig = .exitDo) :
    loopFor procs (fuel + 1) env out v lim st body = some res := by
  simp [loopFor, hin, hb, hs]

/-- EXIT FOR ends exactly the FOR loop whose body raised it; the loop variable keeps its value -/
theorem exit_for_leaves_this_loop (procs : List Proc) (fuel : Nat) (env : Env) (out : List Int) (v : Nat) (lim st : Int) (body : List Stmt) (res : Res)
    (hin : ((decide (st ≥ 0) && decide (getVar env v > lim)) || (decide (st < 0) && decide (getVar env v < lim))) = false)
    (hb : execList procs fuel env out body = some res) (hs : res.sig = .exitFor) :
    loopFor procs (fuel + 1) env out v lim st body = some ⟨res.env, res.out, .normal⟩ := by
  simp [loopFor, hin, hb, hs]

/-- a DO loop passes EXIT FOR on to the FOR loop around it -/
theorem do_passes_exit_for (procs : List Proc) (fuel : Nat) (env : Env) (out : List Int) (post : Expr) (qk : Nat) (body : List Stmt) (res : Res)
    (hb : execList procs fuel env out body = some res) (hs : res.sig = .exitFor) :
    loopDo procs (fuel + 1) env out 0 (.lit 0) qk post body = some res := by
  simp [loopDo, hb, hs]

/-- statements after an EXIT, END or failing statement in the same list are not executed -/
theorem execList_stops (procs : List Proc) (fuel : Nat) (env : Env) (out : List Int) (s : Stmt) (rest : List Stmt) (res : Res)
    (h : exec procs fuel env out s = some res) (hs : res.sig ≠ .normal) :
    execList procs (fuel + 1) env out (s :: rest) = some res := by
  simp [execList, h, hs]

/-- a FOR loop whose start is beyond its limit does not execute its body (and leaves the variable at the start value) -/
theorem for_empty_range (procs : List Proc) (fuel : Nat) (env : Env) (out : List Int) (v : Nat) (lim st : Int) (body : List Stmt)
    (h : (st ≥ 0 ∧ getVar env v > lim) ∨ (st < 0 ∧ getVar env v < lim)) :
    loopFor procs (fuel + 1) env out v lim st body = some ⟨env, out, .normal⟩ := by
  rcases h with ⟨h1, h2⟩ | ⟨h1, h2⟩ <;> simp [loopFor, h1, h2]

/-- WHILE with a false condition skips the body; UNTIL with a non-zero condition (any non-zero value, not only -1) ends a
    DO UNTIL loop before its first iteration -/
theorem while_false_skips (procs : List Proc) (fuel : Nat) (env : Env) (out : List Int) (c : Expr) (body : List Stmt) (h : eval env c = .ok 0) :
    loopWhile procs (fuel + 1) env out c body = some ⟨env, out, .normal⟩ := by
  simp [loopWhile, h]

theorem do_until_nonzero_skips (procs : List Proc) (fuel : Nat) (env : Env) (out : List Int) (pre post : Expr) (qk : Nat) (body : List Stmt) (x : Int)
    (h : eval env pre = .ok x) (hx : x ≠ 0) :
    loopDo procs (fuel + 1) env out 2 pre qk post body = some ⟨env, out, .normal⟩ := by
  simp [loopDo, h, condHolds, hx, Except.map]

/-- non-vacuity: a body `PRINT 5 : EXIT DO : PRINT 6` raises EXIT DO after printing 5, so the premises of
    `exit_do_leaves_this_loop` are met and the loop ends with output [5] -/
example : execList [] 3 [0] [] [.print (.lit 5), .exitDo, .print (.lit 6)] = some ⟨[0], [5], .exitDo⟩ := by
  simp [execList, exec, eval]
example : loopDo [] 4 [0] [] 0 (.lit 0) 0 (.lit 0) [.print (.lit 5), .exitDo, .print (.lit 6)] = some ⟨[0], [5], .normal⟩ :=
  exit_do_leaves_this_loop [] 3 [0] [] (.lit 0) 0 _ ⟨[0], [5], .exitDo⟩ (by simp [execList, exec, eval]) rfl


/-! ### the operators of the reference semantics are the machine's instructions

  `Src.evalB` states what the language prescribes for INTEGER operands; `Arith.binop` / `Arith.unop` are the model of the
  machine's instructions (corresponded with the real `_exec_*` on every run).  On INTEGER cells they agree, result for
  result and error for error (`ofRes`, Lemmas/Src.lean, reads a machine result from the language's side).  AND, OR, XOR
  (`evalB` works on 16-bit patterns, the machine on unbounded two's complement), unary minus and NOT have no such theorem. -/

theorem add_is_machine_add {F} (ops : Arith.FOps F) (x y : Int) :
    ofRes (Arith.binop ops .add (.int .i x) (.int .i y)) = some (evalB .add x y) := by
  rw [Arith.binop_int ops (.inl rfl)]
  exact ofRes_mk ops _

theorem sub_is_machine_sub {F} (ops : Arith.FOps F) (x y : Int) :
    ofRes (Arith.binop ops .sub (.int .i x) (.int .i y)) = some (evalB .sub x y) := by
  rw [Arith.binop_int ops (.inl rfl)]
  exact ofRes_mk ops _

theorem mul_is_machine_mul {F} (ops : Arith.FOps F) (x y : Int) :
    ofRes (Arith.binop ops .mul (.int .i x) (.int .i y)) = some (evalB .mul x y) := by
  rw [Arith.binop_int ops (.inl rfl)]
  exact ofRes_mk ops _

/-- `\` and MOD: division by zero for division by zero, the truncated quotient / its remainder otherwise -/
theorem idiv_is_machine_idiv {F} (ops : Arith.FOps F) (x y : Int) :
    ofRes (Arith.binop ops .idiv (.int .i x) (.int .i y)) = some (evalB .idiv x y) := by
  rw [Arith.binop_int ops (.inl rfl)]
  dsimp only [evalB]
  split
  · rfl
  · rw [(Qbee.ExprSem.idiv_is_truncation x y).1]; exact ofRes_mk ops _

theorem mod_is_machine_mod {F} (ops : Arith.FOps F) (x y : Int) :
    ofRes (Arith.binop ops .mod (.int .i x) (.int .i y)) = some (evalB .mod x y) := by
  rw [Arith.binop_int ops (.inl rfl)]
  dsimp only [evalB]
  split
  · rfl
  · rw [(Qbee.ExprSem.idiv_is_truncation x y).2]; exact ofRes_mk ops _

/-- a comparison is `cmp` followed by the test of its result: x < y is -1 exactly when cmp gives -1 -/
theorem lt_is_machine_cmp_lt {F} (ops : Arith.FOps F) (x y : Int) :
    (match Arith.binop ops .cmp (.int .i x) (.int .i y) with
     | .ok c => ofRes (Arith.unop ops .lt c)
     | _ => none) = some (evalB .lt x y) := by
  rw [Arith.binop_int ops (.inl rfl)]
  dsimp only [Arith.unop, ofRes, evalB]
  simp only [(cmp_sign x y _ rfl).2.1]

theorem gt_is_machine_cmp_gt {F} (ops : Arith.FOps F) (x y : Int) :
    (match Arith.binop ops .cmp (.int .i x) (.int .i y) with
     | .ok c => ofRes (Arith.unop ops .gt c)
     | _ => none) = some (evalB .gt x y) := by
  rw [Arith.binop_int ops (.inl rfl)]
  dsimp only [Arith.unop, ofRes, evalB]
  simp only [(cmp_sign x y _ rfl).2.2.1]

theorem le_is_machine_cmp_le {F} (ops : Arith.FOps F) (x y : Int) :
    (match Arith.binop ops .cmp (.int .i x) (.int .i y) with
     | .ok c => ofRes (Arith.unop ops .le c)
     | _ => none) = some (evalB .le x y) := by
  rw [Arith.binop_int ops (.inl rfl)]
  dsimp only [Arith.unop, ofRes, evalB]
  simp only [(cmp_sign x y _ rfl).2.2.2.1]

theorem ge_is_machine_cmp_ge {F} (ops : Arith.FOps F) (x y : Int) :
    (match Arith.binop ops .cmp (.int .i x) (.int .i y) with
     | .ok c => ofRes (Arith.unop ops .ge c)
     | _ => none) = some (evalB .ge x y) := by
  rw [Arith.binop_int ops (.inl rfl)]
  dsimp only [Arith.unop, ofRes, evalB]
  simp only [(cmp_sign x y _ rfl).2.2.2.2]

theorem eq_is_machine_cmp_eq {F} (ops : Arith.FOps F) (x y : Int) :
    (match Arith.binop ops .cmp (.int .i x) (.int .i y) with
     | .ok c => ofRes (Arith.unop ops .eq c)
     | _ => none) = some (evalB .eq x y) := by
  rw [Arith.binop_int ops (.inl rfl)]
  dsimp only [Arith.unop, ofRes, evalB]
  simp only [(cmp_sign x y _ rfl).1]

theorem ne_is_machine_cmp_ne {F} (ops : Arith.FOps F) (x y : Int) :
    (match Arith.binop ops .cmp (.int .i x) (.int .i y) with
     | .ok c => ofRes (Arith.unop ops .ne c)
     | _ => none) = some (evalB .ne x y) := by
  rw [Arith.binop_int ops (.inl rfl)]
  dsimp only [Arith.unop, ofRes, evalB]
  simp only [(cmp_sign x y _ rfl).1]

/-! ### the reference semantics is well defined -/

/-- the fuel only bounds the search for the end of a run: a program that ends (normally, by END, or with an error) with some
    fuel ends in exactly the same way - same variables, same output, same outcome - with any larger amount; `none` means
    "not finished yet" and nothing else.  (All six functions of Model/Src.lean are monotone in the fuel: Lemmas/SrcFuel.lean.) -/
theorem more_fuel_same_result (procs : List Proc) (fuel k nvars : Nat) (prog : List Stmt) (res : Res)
    (h : run procs fuel nvars prog = some res) : run procs (fuel + k) nvars prog = some res :=
  execList_fuel_add k h

/-- two amounts of fuel that both suffice give the same result -/
theorem result_independent_of_fuel (procs : List Proc) (f1 f2 nvars : Nat) (prog : List Stmt) (r1 r2 : Res)
    (h1 : run procs f1 nvars prog = some r1) (h2 : run procs f2 nvars prog = some r2) : r1 = r2 := by
  have a := more_fuel_same_result procs f1 f2 nvars prog r1 h1
  have b := more_fuel_same_result procs f2 f1 nvars prog r2 h2
  rw [Nat.add_comm, a] at b
  exact Option.some.inj b

/-! ### arrays -/

/-- a subscript outside the declared bounds is a run-time error, for reading and for writing -/
theorem idx_out_of_range_traps (env : Env) (base : Nat) (lo hi k : Int) (i : Expr) (hi' : eval env i = .ok k)
    (hout : k < lo ∨ k > hi) : eval env (.idx base lo hi i) = .error "INDEX_OUT_OF_RANGE" := by
  simp [eval, hi', elemCell, hout]

theorem assign_out_of_range_traps (procs : List Proc) (fuel : Nat) (env : Env) (out : List Int) (base : Nat) (lo hi k x : Int)
    (i e : Expr) (he : eval env e = .ok x) (hi' : eval env i = .ok k) (hout : k < lo ∨ k > hi) :
    exec procs fuel env out (.assignIdx base lo hi i e) = some ⟨env, out, .trap "INDEX_OUT_OF_RANGE"⟩ := by
  simp [exec, he, hi', elemCell, hout]

/-- distinct subscripts within the bounds name distinct cells, all of them inside the array's storage -/
theorem elemCell_injective (env : Env) (base : Nat) (lo hi k1 k2 : Int) (c1 c2 : Nat)
    (h1 : elemCell env base lo hi k1 = .ok c1) (h2 : elemCell env base lo hi k2 = .ok c2) (hne : k1 ≠ k2) :
    c1 ≠ c2 ∧ base ≤ c1 ∧ c1 ≤ base + (hi - lo).toNat := by
  obtain ⟨j1, rfl, _, rfl, -⟩ := elemCell_eq_ok.1 h1
  obtain ⟨j2, rfl, -, rfl, -⟩ := elemCell_eq_ok.1 h2
  omega

/-- an element reads back what was assigned to it -/
theorem assignIdx_then_idx (procs : List Proc) (fuel : Nat) (env : Env) (out : List Int) (base : Nat) (lo hi k x : Int)
    (i e : Expr) (c : Nat) (he : eval env e = .ok x) (hi' : eval env i = .ok k) (hc : elemCell env base lo hi k = .ok c) :
    ∃ env', exec procs fuel env out (.assignIdx base lo hi i e) = some ⟨env', out, .normal⟩ ∧
      elemCell env' base lo hi k = .ok c ∧ getVar env' c = x := by
  obtain ⟨_, -, -, -, hlt⟩ := elemCell_eq_ok.1 hc
  refine ⟨setVar env c x, by simp [exec, he, hi', hc], ?_, getVar_setVar_eq hlt⟩
  rwa [elemCell_eq_ok, setVar_length, ← elemCell_eq_ok]

/-- ... and every other element and variable keeps its value -/
theorem assignIdx_frame (env : Env) (c c' : Nat) (x : Int) (h : c' ≠ c) : getVar (setVar env c x) c' = getVar env c' :=
  getVar_setVar_ne h

/-! ### procedures -/

/-- what a CALL does, given what its body did.  Every activation starts with its locals reading 0 and its parameters holding
    the argument values: the frame the body runs in does not depend on earlier activations or on the caller's other variables -/
theorem call_unfold (procs : List Proc) (fuel : Nat) (env : Env) (out : List Int) (p : Nat) (args : List Arg) (pr : Proc)
    (vals : List Int) (res : Res) (hp : procs[p]? = some pr) (ha : args.length = pr.nparams) (hv : evalArgs env args = .ok vals)
    (hb : execList procs fuel (vals ++ List.replicate pr.nlocals 0) out pr.body = some res) :
    exec procs fuel env out (.call p args) =
      some ⟨copyOut env args res.env 0, res.out, if res.sig = .exitSub then .normal else res.sig⟩ := by
  simp [exec, hp, ha, hv, hb]

/-- an argument that is not a plain variable is passed by value: a call whose arguments are all expressions leaves every
    variable of the caller as it was, whatever the procedure does to its parameters -/
theorem call_byval_preserves_caller (procs : List Proc) (fuel : Nat) (env : Env) (out : List Int) (p : Nat) (args : List Arg)
    (res : Res) (hv : refsOf args = []) (h : exec procs fuel env out (.call p args) = some res) : res.env = env :=
  call_result_env (P := (· = env)) rfl (fun _ => copyOut_no_refs hv) h

/-- a call changes only the variables it passes by reference -/
theorem call_writes_only_refs (procs : List Proc) (fuel : Nat) (env : Env) (out : List Int) (p : Nat) (args : List Arg)
    (res : Res) (v : Nat) (hv : v ∉ refsOf args) (h : exec procs fuel env out (.call p args) = some res) :
    getVar res.env v = getVar env v :=
  call_result_env (P := (getVar · v = getVar env v)) rfl (fun _ => copyOut_other hv) h

/-- a variable passed by reference comes back with the value the procedure left in the corresponding parameter
    (no variable passed twice) -/
theorem call_ref_gets_callee_value (env cenv : Env) (args : List Arg) (k v : Nat) (hk : args[k]? = some (.ref v))
    (hna : NoAlias args) (hv : v < env.length) : getVar (copyOut env args cenv 0) v = getVar cenv k :=
  copyOut_ref hk hna hv

/-- EXIT SUB returns to the statement after the CALL; END inside a procedure ends the program; an error stays an error -/
theorem exit_sub_returns (procs : List Proc) (fuel : Nat) (env : Env) (out : List Int) (p : Nat) (args : List Arg) (pr : Proc)
    (vals : List Int) (res : Res) (hp : procs[p]? = some pr) (ha : args.length = pr.nparams) (hv : evalArgs env args = .ok vals)
    (hb : execList procs fuel (vals ++ List.replicate pr.nlocals 0) out pr.body = some res) (hs : res.sig = .exitSub) :
    exec procs fuel env out (.call p args) = some ⟨copyOut env args res.env 0, res.out, .normal⟩ := by
  rw [call_unfold procs fuel env out p args pr vals res hp ha hv hb]; simp [hs]

theorem end_in_sub_ends_program (procs : List Proc) (fuel : Nat) (env : Env) (out : List Int) (p : Nat) (args : List Arg)
    (pr : Proc) (vals : List Int) (res : Res) (hp : procs[p]? = some pr) (ha : args.length = pr.nparams)
    (hv : evalArgs env args = .ok vals)
    (hb : execList procs fuel (vals ++ List.replicate pr.nlocals 0) out pr.body = some res) (hs : res.sig = .ended) :
    exec procs fuel env out (.call p args) = some ⟨copyOut env args res.env 0, res.out, .ended⟩ := by
  rw [call_unfold procs fuel env out p args pr vals res hp ha hv hb]; simp [hs]

/-- non-vacuity: SUB p0 (a, b): a = 7 : b = 9 : EXIT SUB : PRINT 7 ; CALL p0(v0, (v1)) with v0 = 4, v1 = 5:
    v0 comes back as 7, v1 (passed by value) keeps 5, nothing is printed -/
example : exec [⟨2, 0, [.assign 0 (.lit 7), .assign 1 (.lit 9), .exitSub, .print (.lit 7)]⟩] 5 [4, 5] []
    (.call 0 [.ref 0, .val (.var 1)]) = some ⟨[7, 5], [], .normal⟩ := by
  have hb : execList [⟨2, 0, [.assign 0 (.lit 7), .assign 1 (.lit 9), .exitSub, .print (.lit 7)]⟩] 5
      ([4, 5] ++ List.replicate 0 0) [] [.assign 0 (.lit 7), .assign 1 (.lit 9), .exitSub, .print (.lit 7)]
      = some ⟨[7, 9], [], .exitSub⟩ := by
    simp [execList, exec, eval, setVar]
  rw [exit_sub_returns _ 5 [4, 5] [] 0 _ ⟨2, 0, _⟩ [4, 5] _ rfl rfl rfl hb rfl]
  rfl

end Qbee.Src
