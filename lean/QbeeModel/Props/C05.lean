import QbeeModel.Lemmas.Blocks
import QbeeModel.Lemmas.ExprC
/-
  C05  Static errors are rejected at compile time with a located diagnostic.  Property theorems only.

  PARTIAL.  Proved for the two modelled rule families: block structure (parser.parse_string / Block.create and the
  create_block rules, any program) and operator typing (BinaryOp.type / UnaryOp.type and the pass-2 acceptance, over
  the tables regenerated from the real passes).  Names, labels, argument lists, CONST and the positions of those
  diagnostics are covered by the fault-injection oracle of harness/checks/c05.py, not by a theorem.
  `itemLoc` (the position an item carries) is defined in Lemmas/Blocks.lean.
-/
namespace Qbee.Blocks

/-- what an accepting run has seen: for every block kind, as many openers (counting the blocks still open at the
    start) as terminators -/
theorem run_ok_counts : ∀ (toks : List Tok) (st : List Frame) (cur : List Item),
    run toks st cur = .ok () → ∀ k, countStart k toks + countFrames k st = countStop k toks := by
  intro toks st cur h k
  -- the cases of `run.induct` are listed in Lemmas/Blocks.lean
  fun_induction run toks st cur with
  | case1 => rfl
  | case2 | case4 | case5 | case6 | case9 | case10 | case12 | case13 => cases h  -- the run ends in an error
  | case3 k' loc r st cur ih =>
    -- an opener: counted among the open blocks from here on
    have := ih h
    simp only [countStart, countStop, countFrames] at this ⊢
    omega
  | case7 k' loc r f st cur hk _ ih =>
    -- a terminator of the kind of the innermost open block, which it closes
    obtain rfl : f.kind = k' := Decidable.not_not.mp hk
    have := ih h
    simp only [countStart, countStop, countFrames] at this ⊢
    omega
  | case8 | case11 | case14 => rename_i ih; exact ih h  -- ELSE / CASE, a field, a plain statement: not counted

/-- an unclosed block or a surplus terminator is never accepted, wherever it stands and whatever surrounds it -/
theorem unbalanced_rejected (toks : List Tok) (k : Nat) (h : countStart k toks ≠ countStop k toks) :
    assemble toks ≠ .ok () :=
  fun hok => h (run_ok_counts toks [] [] hok k)

/-- every position ever reported is the position of a statement of the program: of the offending terminator, of the
    stray ELSE / CASE, of the statement that may not stand where it stands, or of the opener of the innermost unclosed
    block -/
theorem run_error_located : ∀ (toks : List Tok) (st : List Frame) (cur : List Item) (e : Err),
    run toks st cur = .error e →
    e.loc ∈ toks.map Tok.loc ∨ e.loc ∈ st.map (·.loc) ∨ e.loc ∈ cur.map itemLoc ∨ ∃ f ∈ st, e.loc ∈ f.outer.map itemLoc :=
  fun toks st cur _ h =>
    run_error_loc
      (fun x => x ∈ toks.map Tok.loc ∨ x ∈ st.map (·.loc) ∨ x ∈ cur.map itemLoc ∨ ∃ f ∈ st, x ∈ f.outer.map itemLoc)
      (fun _ ht => .inl (List.mem_map_of_mem ht))
      (fun f hf => ⟨.inr (.inl (List.mem_map_of_mem hf)),
        fun _ hit => .inr (.inr (.inr ⟨f, hf, List.mem_map_of_mem hit⟩))⟩)
      (fun _ hit => .inr (.inr (.inl (List.mem_map_of_mem hit)))) h

theorem diagnostic_is_located (toks : List Tok) (e : Err) (h : assemble toks = .error e) : e.loc ∈ toks.map Tok.loc :=
  run_error_loc (· ∈ toks.map Tok.loc) (st := []) (cur := []) (fun _ ht => List.mem_map_of_mem ht)
    (fun _ hf => nomatch hf) (fun _ hit => nomatch hit) h

/-- properly nested programs (plain statements and the blocks without inner rules: SUB, FUNCTION, DO, FOR, WHILE) -/
inductive Nest : List Tok → Prop where
  | nil : Nest []
  | plain (l : Nat) (rest : List Tok) (h : Nest rest) : Nest (.plain l :: rest)
  | block (k l l' : Nat) (body rest : List Tok) (hk : k ≠ 0 ∧ k ≠ 3 ∧ k ≠ 6) (hb : Nest body) (hr : Nest rest) :
      Nest (.start k l :: (body ++ .stop k l' :: rest))

/-- a properly nested run of statements is consumed without complaint wherever it stands: a valid construct is never
    rejected because of what surrounds it -/
theorem nest_consumed : ∀ (toks : List Tok), Nest toks → ∀ (rest : List Tok) (st : List Frame) (cur : List Item),
    ∃ cur', run (toks ++ rest) st cur = run rest st cur' := by
  intro toks h
  induction h with
  | nil => exact fun _ _ cur => ⟨cur, rfl⟩
  | plain l r _ ih => exact fun rest st cur => ih rest st (cur ++ [Item.other l])
  | block k l l' body r hk _ _ ihb ihr =>
    intro rest st cur
    obtain ⟨c1, h1⟩ := ihb (.stop k l' :: (r ++ rest)) (⟨k, l, cur⟩ :: st) []
    obtain ⟨c2, h2⟩ := ihr rest st (cur ++ [.other l])
    have hcc : closeCheck k c1 = none := by simp [closeCheck, hk]
    refine ⟨c2, ?_⟩
    -- the opener is pushed, the body consumed (h1), the terminator closes the block, the rest is consumed (h2)
    rw [List.cons_append, List.append_assoc, List.cons_append, run, h1, run]
    simp [hcc, h2]

theorem nest_accepted (toks : List Tok) (h : Nest toks) : assemble toks = .ok () := by
  obtain ⟨c, hc⟩ := nest_consumed toks h [] [] []
  rwa [List.append_nil] at hc

/-- non-vacuity -/
example : assemble [.start 5 1, .plain 2, .stop 5 3] = .ok () := by rfl
example : assemble [.start 5 1, .start 7 2, .stop 5 3, .stop 7 4] = .error (.expected 7 3) := by rfl
example : assemble [.plain 1, .mid 0 2] = .error (.midWithout 0 2) := by rfl
example : assemble [.start 0 1, .mid 0 2, .mid 1 3, .stop 0 4] = .error (.elseAfterElse 3) := by rfl
example : assemble [.start 4 1, .start 5 2, .plain 3] = .error (.notClosed 5 2) := by rfl
example : assemble [.start 3 1, .field 2, .stop 3 3, .field 4] = .error (.fieldOutside 4) := by rfl
example : assemble [.start 6 1, .mid 2 2, .mid 3 3, .mid 2 4, .stop 6 5] = .ok () := by rfl
example : assemble [.start 6 1, .mid 3 2, .plain 3, .stop 6 4] = .ok () := by rfl
example : assemble [.start 3 1, .start 5 2, .field 3, .stop 5 4, .stop 3 5] = .error (.fieldOutside 3) := by rfl

end Qbee.Blocks

namespace Qbee.ExprC
open Qbee.Gen

/-- an accepted operator application has accepted operands and an accepted row: an ill-typed operator application anywhere
    in an expression makes the whole expression rejected -/
theorem ty_bin_inv (op : Nat) (a b : E) (t : Ty) (h : ty (.bin op a b) = some t) :
    ∃ l r, ty a = some l ∧ ty b = some r ∧ ∃ x y z code, binRow op l r = some (x, y, z, true, some t, code) :=
  let ⟨l, r, code, ha, hb, hrow, _⟩ := ty_bin_some h
  ⟨l, r, ha, hb, op, l, r, code, hrow⟩

theorem ill_typed_operand_rejects (op : Nat) (a b : E) (h : ty a = none ∨ ty b = none) : ty (.bin op a b) = none := by
  cases ht : ty (.bin op a b) with
  | none => rfl
  | some t =>
    obtain ⟨l, r, ha, hb, _⟩ := ty_bin_inv op a b t ht
    rcases h with h | h
    · rw [h] at ha; cases ha
    · rw [h] at hb; cases hb

end Qbee.ExprC
