import QbeeModel.Model.Effects
/-
  C20  Compilation and execution are deterministic.  The property theorems, and `not_occurs_of_covers` which three of them use.

  `current_tree_deterministic` is re-decided on every run over the effect summary regenerated from /repo's source:
  a new write to process-wide state inside a function, a new order-sensitive use of a set, or a new read of the
  process environment on the compile / run path makes it false.  `summary_sound` says what that buys: a computation all
  of whose non-read actions would have been reported produces the same output after any history of other computations,
  under any hash seed / clock / working directory (the oracles), in any process.
  The extraction itself (syntactic, no alias analysis, no call graph) and the allow list are in the trusted base.
-/
namespace Qbee.Effects
open Qbee.Gen

theorem not_occurs_of_covers {V : Type} {s : List Eff} (hd : Deterministic s = true) {c : Comp V} (hc : Covers s c)
    (kd : EffKind) : ¬ Occurs kd c := fun ho =>
  have ⟨e, he, _, hf⟩ := hc kd ho
  Bool.false_ne_true (hf.symm.trans (List.all_eq_true.mp hd e he))

theorem quiet_of_covers {V : Type} (s : List Eff) (hd : Deterministic s = true) :
    ∀ (c : Comp V), Covers s c → Quiet c := by
  intro c
  induction c with
  | ret out => exact fun _ => .ret out
  | readShared l k ih => exact fun hc => .readShared l k fun v => ih v fun kd ho => hc kd (.inRead kd l k v ho)
  | writeShared l v k _ => exact fun hc => absurd (.writeHere l v k) (not_occurs_of_covers hd hc _)
  | ambient k _ => exact fun hc => absurd (.ambientHere k) (not_occurs_of_covers hd hc _)
  | setOrder k _ => exact fun hc => absurd (.orderHere k) (not_occurs_of_covers hd hc _)

/-- a quiet computation leaves the shared store alone and its output depends on the shared store only -/
theorem quiet_run {V : Type} (c : Comp V) (hq : Quiet c) (e e' : Env V) (hs : ∀ l, e.shared l = e'.shared l) :
    (run c e).1 = (run c e').1 ∧ (∀ l, (run c e).2.shared l = e.shared l) := by
  induction hq generalizing e e' with
  | ret out => exact ⟨rfl, fun _ => rfl⟩
  | readShared l k _ ih =>
    simp only [run]
    rw [hs l]
    exact ih (e'.shared l) e e' hs

/-- a history of computations, one after the other in one process -/
def runAll {V : Type} : List (Comp V) → Env V → Env V
  | [], e => e
  | c :: cs, e => runAll cs (run c e).2

/-- running any history of quiet computations does not change the shared store -/
theorem history_keeps_shared {V : Type} (cs : List (Comp V)) (hq : ∀ c ∈ cs, Quiet c) (e : Env V) :
    ∀ l, (runAll cs e).shared l = e.shared l := by
  induction cs generalizing e with
  | nil => intro l; rfl
  | cons c cs ih =>
    obtain ⟨hc, hcs⟩ := List.forall_mem_cons.mp hq
    intro l
    rw [runAll, ih hcs, (quiet_run c hc e e fun _ => rfl).2]

/-- SOUNDNESS OF THE SUMMARY: if every effect extracted from the source is on the allow list, then a computation covered
    by the summary gives the same output in a fresh process and after any history of covered computations, whatever the
    hash seed, clock, random numbers and set orders of the two processes are - provided the two processes start from the
    same import-time state -/
theorem summary_sound {V : Type} (s : List Eff) (hd : Deterministic s = true)
    (c : Comp V) (hc : Covers s c) (history history' : List (Comp V))
    (hh : ∀ c' ∈ history, Covers s c') (hh' : ∀ c' ∈ history', Covers s c')
    (e e' : Env V) (hs : ∀ l, e.shared l = e'.shared l) :
    (run c (runAll history e)).1 = (run c (runAll history' e')).1 := by
  have hq := quiet_of_covers s hd c hc
  have h1 := history_keeps_shared history (fun c' h => quiet_of_covers s hd c' (hh c' h)) e
  have h2 := history_keeps_shared history' (fun c' h => quiet_of_covers s hd c' (hh' c' h)) e'
  exact (quiet_run c hq _ _ (fun l => by rw [h1 l, h2 l, hs l])).1

/-- the obligation on the CURRENT tree: every write to process-wide state, every order-sensitive use of a set and every
    read of the process environment found in the anchored files is on the allow list -/
theorem current_tree_deterministic : Deterministic effectSummary = true := by decide

/-- non-vacuity: a computation that reads shared state is covered by the current summary and is quiet;
    one that consults the clock is not covered -/
example : Covers (V := Nat) effectSummary (.readShared 0 fun v => .ret [v]) := by
  intro kd ho
  cases ho with
  | inRead _ _ _ v h => cases h
example : ¬ Covers (V := Nat) effectSummary (.ambient fun v => .ret [v]) := fun h =>
  not_occurs_of_covers current_tree_deterministic h .ambient (.ambientHere _)

end Qbee.Effects
