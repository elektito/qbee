import QbeeModel.Lemmas.DbgEval
/-
  C13  Debugger expression evaluation agrees with the running program.  Property theorems only.

  `refEval` is the reference semantics of the compiled expression (Props/C01.lean: the code the compiler emits computes
  exactly refEval on the machine model).  Proved for INTEGER / LONG trees of any depth over any leaf values: every
  arithmetic (+ - * \ MOD), logic (AND OR XOR EQV IMP NOT), comparison and sign operator.  Whenever the debugger prints
  a value, the program computes that typed value; whenever the debugger reports an evaluation error, the program traps.
  Float and string expressions, / and ^ are outside the theorem (`unsupported`) and covered by the probe oracle only.
-/
namespace Qbee.DbgEval
open Qbee.Gen Qbee.ExprC Qbee.Arith Qbee.ExprSem Qbee.Fold

/-- whenever the debugger prints a value for an integral expression, the program computes exactly that typed value there -/
theorem dbg_eval_agrees {F} (ops : FOps F) (e : CE F) (t : Ty) (n : Int) (h : dbgEval e = .val t n) :
    ty e.erase = some t ∧ refEval ops e = .ok (.int t n) :=
  have ⟨h1, _, h3⟩ : Agrees _ (.val t n) _ := h ▸ dbg_eval_sound ops e
  ⟨h1, h3⟩

/-- whenever the debugger reports an evaluation error (overflow, division by zero), the program traps there -/
theorem dbg_eval_error_is_trap {F} (ops : FOps F) (e : CE F) (h : dbgEval e = .err) : ∃ c, refEval ops e = .trap c :=
  (h ▸ dbg_eval_sound ops e : Agrees _ .err _)

/-- non-vacuity: (7 + 32767) overflows INTEGER in both, (7 + 3) \ 2 = 5 in both -/
example : dbgEval (F := Unit) (.bin 1 (.leaf (.int .i 7)) (.leaf (.int .i 32767))) = .err := by decide +kernel
example : dbgEval (F := Unit) (.bin 6 (.bin 1 (.leaf (.int .i 7)) (.leaf (.int .i 3))) (.leaf (.int .i 2))) = .val .i 5 := by decide +kernel

end Qbee.DbgEval
