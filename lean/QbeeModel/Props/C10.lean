import QbeeModel.Props.C07
import QbeeModel.Lemmas.StmtDepth
import QbeeModel.Lemmas.StmtDepthLazy
/-
  C10  ON ERROR, RESUME and RESUME NEXT follow statement-level semantics.  Property theorems only.
  (Model/Tick.lean is the code AS REPAIRED: trapped_addr is recorded for divisions by zero; RESUME / RESUME NEXT
  clear error_handler_active.)  The clause 'none of its partial results remain' is about the operand stack: it was false
  (the former known finding) and is proved below for the bookkeeping of Model/StmtDepth.lean (as repaired).
  `lrun` (a run of the lazy bookkeeping) is defined in Lemmas/StmtDepthLazy.lean.
-/
namespace Qbee.Tick

/-- while ON ERROR GOTO is armed and the handler is not running, any run-time error in any instruction
    transfers control to the handler, records the kind of error and the failing instruction -/
theorem armed_dispatch (codeLen : Nat) (s : St) (code a sz : Nat) (stmt : Option (Nat × Nat))
    (hi : s.interrupt = false) (ha : s.target = .addr a) (hna : s.active = false) (hlen : a < codeLen) :
    tick codeLen s (.traps code sz) stmt =
      .st { s with pc := a, prevPc := s.pc, active := true, lastTrap := some code, trappedAddr := s.pc } :=
  armed_dispatch_unwind code sz stmt none hi ha hna hlen

/-- ... also when the failing instruction belongs to a procedure: control goes to the (module-level) handler, and the error is
    accounted to the module-level statement whose CALL led into the procedure (`u` lies inside it): RESUME re-executes that
    statement and RESUME NEXT continues after it (as repaired: the handler ran on the procedure's frame) -/
theorem armed_dispatch_from_procedure (codeLen : Nat) (s : St) (code a sz u : Nat) (stmt : Option (Nat × Nat))
    (hi : s.interrupt = false) (ha : s.target = .addr a) (hna : s.active = false) (hlen : a < codeLen) :
    tick codeLen s (.traps code sz) stmt (some u) =
      .st { s with pc := a, prevPc := s.pc, active := true, lastTrap := some code, trappedAddr := u } :=
  armed_dispatch_unwind code sz stmt (some u) hi ha hna hlen

/-- ERR distinguishes the error kinds the property names (values of the generated TrapCode table) -/
theorem err_reports_kind :
    (Gen.trapCodes.lookup "DIVISION_BY_ZERO", Gen.trapCodes.lookup "INVALID_CELL_VALUE",
     Gen.trapCodes.lookup "INDEX_OUT_OF_RANGE", Gen.trapCodes.lookup "INVALID_OPERAND_VALUE",
     Gen.trapCodes.lookup "DEVICE_ERROR") = (some 14, some 10, some 11, some 9, some 3) := by decide +kernel

/-- RESUME re-executes the failed statement and leaves the handler -/
theorem resume_reexecutes (codeLen : Nat) (s : St) (size st0 e : Nat)
    (hi : s.interrupt = false) (hh : s.halted = false) (hlen : st0 < codeLen) :
    tick codeLen s (.errres size) (some (st0, e)) = .st { s with pc := st0, prevPc := s.pc, active := false } := by
  simp [tick, hi, endCheck_of_lt, hh, hlen]

/-- RESUME NEXT continues with the statement following the failed one and leaves the handler -/
theorem resume_next_continues (codeLen : Nat) (s : St) (size st0 e : Nat)
    (hi : s.interrupt = false) (hh : s.halted = false) (hlen : e < codeLen) :
    tick codeLen s (.errresn size) (some (st0, e)) = .st { s with pc := e, prevPc := s.pc, active := false } := by
  simp [tick, hi, endCheck_of_lt, hh, hlen]

/-- ON ERROR RESUME NEXT skips a failing statement without entering a handler -/
theorem on_error_resume_next_skips (codeLen : Nat) (s : St) (code sz st0 e : Nat)
    (hi : s.interrupt = false) (ht : s.target = .next) (hna : s.active = false) (hh : s.halted = false)
    (hlen : e < codeLen) :
    tick codeLen s (.traps code sz) (some (st0, e)) =
      .st { s with pc := e, prevPc := s.pc, active := false, lastTrap := some code, trappedAddr := s.pc } := by
  simp [tick, hi, trapDispatch, resumeNext, ht, hna, endCheck_of_lt, hh, hlen]

/-- ON ERROR GOTO 0 restores default error reporting: the next error halts the run with that error -/
theorem on_error_goto_0_restores (codeLen : Nat) (s : St) (size code sz : Nat) (stmt : Option (Nat × Nat))
    (hi : s.interrupt = false) (hna : s.active = false) (hh : s.halted = false) (hlen : s.pc + size < codeLen) :
    ∃ s1, tick codeLen s (.errhand 0 size) stmt = .st s1 ∧ s1.target = .off ∧ s1.active = false ∧
      tick codeLen s1 (.traps code sz) stmt =
        .st { s1 with pc := s1.pc + sz, prevPc := s1.pc, lastTrap := some code, trappedAddr := s1.pc, halted := true, reason := .trap } := by
  refine ⟨{ s with pc := s.pc + size, prevPc := s.pc, target := .off }, ?_, rfl, hna, ?_⟩
  · simp [tick, hi, hna, endCheck_of_lt, hh, hlen]
  · exact unarmed_trap_halts _ _ _ _ _ hi rfl

end Qbee.Tick

namespace Qbee.StmtDepth

/-- at a statement boundary the operand stack of a routine is at the depth it had when the routine was entered plus one
    entry per active GOSUB (the formula of C03), which is the depth a handled error cuts it back to -/
theorem boundary_depth_formula (s : St) (f : Frame) (n : Nat) (h : AtBoundary s f n) : s.depth = f.base + 1 + n := by
  rw [h.2, stmtDepth_consec f n h.1]

/-- GOSUB at a statement boundary leaves the routine it enters at a statement boundary, one GOSUB deeper -/
theorem gosub_keeps_boundary (s : St) (f : Frame) (rest : List Frame) (n : Nat) (hf : s.frames = f :: rest)
    (h : AtBoundary s f n) :
    ∃ f', (step s .gosub).frames = f' :: rest ∧ f'.base = f.base ∧ AtBoundary (step s .gosub) f' (n + 1) := by
  rw [step_gosub hf]
  refine ⟨_, rfl, rfl, ?_, rfl⟩
  show s.depth :: f.marks = (f.base + n + 1) :: consec f.base n
  rw [h.1, boundary_depth_formula s f n h, Nat.add_right_comm]

/-- RETURN at a statement boundary (it pops the innermost GOSUB address) leaves a statement boundary, one GOSUB less -/
theorem return_keeps_boundary (s : St) (f : Frame) (rest : List Frame) (n : Nat) (hf : s.frames = f :: rest)
    (h : AtBoundary s f (n + 1)) :
    ∃ f', (step s (.instr 1 0)).frames = f' :: rest ∧ f'.base = f.base ∧ AtBoundary (step s (.instr 1 0)) f' n := by
  have hd : s.depth - 1 = f.base + 1 + n := by rw [boundary_depth_formula s f (n + 1) h]; rfl
  have hp : (f.pruned (s.depth - 1)).marks = consec f.base n := by
    rw [Frame.pruned, h.1, hd, prune_consec_succ]
  rw [step_instr hf]
  exact ⟨_, rfl, rfl, hp, hd.trans (stmtDepth_consec _ n hp).symm⟩

/-- the instructions of a statement that never reach below the statement's starting depth leave the frames as they are -/
theorem body_keeps_frames (f : Frame) (rest : List Frame) (L : Nat) (hm : ∀ i ∈ f.marks, i < L) :
    ∀ (body : List (Nat × Nat)) (s : St), s.frames = f :: rest → staysAbove L s.depth body = true →
      (run s (body.map fun pq => Ev.instr pq.1 pq.2)).frames = f :: rest ∧
      L ≤ (run s (body.map fun pq => Ev.instr pq.1 pq.2)).depth ∨ body = [] ∧ (run s []).frames = f :: rest
  | [], _, hf, _ => .inr ⟨rfl, hf⟩
  | (p, q) :: r, s, hf, ha => by
    -- a first instruction that stays above `L` shows that the stack is at least `L` deep
    have hL : L + p ≤ s.depth := of_decide_eq_true (Bool.and_eq_true_iff.1 ha).1
    exact .inl (run_instrs hm _ s hf (Nat.le_trans (Nat.le_add_right L p) hL) ha)

/-- **none of its partial results remain (handled in place).**  A statement that starts at a statement boundary, executes
    any instructions that do not reach below its starting depth, and fails under ON ERROR RESUME NEXT leaves the stack and
    the frames exactly as they were when it started: the next statement starts at a statement boundary again -/
theorem failed_statement_leaves_nothing (s : St) (f : Frame) (rest : List Frame) (n : Nat) (hf : s.frames = f :: rest)
    (h : AtBoundary s f n) (body : List (Nat × Nat)) (ha : staysAbove s.depth s.depth body = true) :
    run s ((body.map fun pq => Ev.instr pq.1 pq.2) ++ [.handledNext]) = s := by
  obtain ⟨hfr, hge⟩ := run_instrs h.marks_lt body s hf (Nat.le_refl _) ha
  -- the cut goes back to `stmtDepth f`, which is where `s` stands
  rw [run_append, run_cons, run_nil, step_handledNext hfr, ← h.2, Nat.min_eq_right hge, ← hf]

/-- **failing statements do not accumulate.**  Any number of statements that fail one after the other under ON ERROR RESUME
    NEXT (a loop around a failing statement, say) leave the state as it was before the first of them: before the repair every
    one of them left its partial results behind -/
theorem failing_statements_do_not_accumulate (s : St) (f : Frame) (rest : List Frame) (n : Nat) (hf : s.frames = f :: rest)
    (h : AtBoundary s f n) (stmts : List (List (Nat × Nat))) (ha : ∀ b ∈ stmts, staysAbove s.depth s.depth b = true) :
    run s (stmts.flatMap fun b => (b.map fun pq => Ev.instr pq.1 pq.2) ++ [.handledNext]) = s := by
  induction stmts with
  | nil => rfl
  | cons b r ih =>
    rw [List.forall_mem_cons] at ha
    rw [List.flatMap_cons, run_append, failed_statement_leaves_nothing s f rest n hf h b ha.1]
    exact ih ha.2

/-- a statement that completes with the stack where it found it (what the code generator produces: C03's monitor checks it
    on every run) and never reaches below that depth leaves the frames alone: the next statement starts at a boundary too -/
theorem completed_statement_keeps_boundary (s : St) (f : Frame) (rest : List Frame) (n : Nat) (hf : s.frames = f :: rest)
    (h : AtBoundary s f n) (body : List (Nat × Nat)) (ha : staysAbove s.depth s.depth body = true)
    (hbal : (run s (body.map fun pq => Ev.instr pq.1 pq.2)).depth = s.depth) :
    (run s (body.map fun pq => Ev.instr pq.1 pq.2)).frames = f :: rest ∧
      AtBoundary (run s (body.map fun pq => Ev.instr pq.1 pq.2)) f n :=
  ⟨(run_instrs h.marks_lt body s hf (Nat.le_refl _) ha).1, h.1, hbal.trans h.2⟩

/-- **none of its partial results remain (module-level handler).**  Whatever procedures are active when the error happens
    (their frames lie above the depth the module-level statement started at), the handler starts on the module-level frame
    alone, at a statement boundary: exactly where the failed module-level statement started -/
theorem handler_starts_at_boundary (s : St) (pre : List Frame) (m : Frame) (n : Nat) (hf : s.frames = pre ++ [m])
    (hm : m.marks = consec m.base n) (hd : stmtDepth m ≤ s.depth) (hb : ∀ f ∈ pre, stmtDepth m ≤ f.base) :
    (step s .handledGoto).frames = [m] ∧ AtBoundary (step s .handledGoto) m n := by
  obtain ⟨d, hu, hd'⟩ := unwind_append (stmtDepth m) m pre s.depth hd hb
  -- no mark of `m` is cut: they lie below `stmtDepth m ≤ d`
  have hp : m.pruned d = m := pruned_eq_self fun i hi => Nat.lt_of_lt_of_le (marks_lt_stmtDepth hm i hi) hd'
  simp only [step, hf, hu, hp]
  exact ⟨trivial, hm, Nat.min_eq_right hd'⟩

/-- before the repair a handled error changed nothing: under ON ERROR RESUME NEXT the partial results of every failing
    statement stayed (they piled up in a loop; a RETURN took one for its address) -/
theorem partial_results_stayed_before_repair (s : St) : stepOld s .handledNext = s := rfl

/-- the premises are satisfiable and the conclusions are not trivial: inside one GOSUB at module level (depth 2) a
    statement pushes three operands, consumes two, pushes one and fails with two entries of its own on the stack -/
example :
    AtBoundary { depth := 2, frames := [{ base := 0, marks := [1] }] } { base := 0, marks := [1] } 1 ∧
    staysAbove 2 2 [(0, 3), (2, 0), (0, 1)] = true ∧
    (run { depth := 2, frames := [{ base := 0, marks := [1] }] }
      ([(0, 3), (2, 0), (0, 1)].map (fun pq => Ev.instr pq.1 pq.2))).depth = 4 :=
  ⟨⟨rfl, rfl⟩, by decide +kernel, by decide +kernel⟩

/-- ... and an error two procedures deep, with the module-level statement inside a GOSUB routine -/
example :
    (step { depth := 9, frames := [{ base := 7, marks := [] }, { base := 4, marks := [5] }, { base := 0, marks := [1] }] }
      .handledGoto) = { depth := 2, frames := [{ base := 0, marks := [1] }] } := by
  decide +kernel

end Qbee.StmtDepth

namespace Qbee.StmtDepth.Lazy

/-- **the code's bookkeeping refines the model's.**  The machine keeps (index, cell) marks, never removes one when its cell
    is popped, and validates them by cell identity from the innermost end only when an error is handled
    (Model/StmtDepthLazy.lean); the model of the theorems above drops a mark the moment its cell is popped.  Seen through
    `abs` - keep the valid marks - every run of ordinary instructions and GOSUBs is a run of the eager model ... -/
theorem lazy_refines_eager (evs : List LEv) (hp : ∀ e ∈ evs, e ≠ .handledNext) :
    ∀ s : LSt, Fresh s → abs (lrun s evs) = run (abs s) (evs.map toEv) ∧ Fresh (lrun s evs) := by
  induction evs with
  | nil => exact fun s hf => ⟨rfl, hf⟩
  | cons e r ih =>
    intro s hf
    obtain ⟨h1, hf1⟩ := step_refines s hf e (hp e (.head _))
    obtain ⟨h2, hf2⟩ := ih (fun e' he' => hp e' (.tail _ he')) (lstep s e) hf1
    exact ⟨by rw [List.map_cons, run_cons, ← h1]; exact h2, hf2⟩

/-- ... and when an error is then handled, the code cuts the stack back to the depth the eager model cuts it back to: the
    theorems about `stmtDepth` are theorems about what the code computes -/
theorem lazy_handled_depth (evs : List LEv) (hp : ∀ e ∈ evs, e ≠ .handledNext) (s : LSt) (hf : Fresh s) :
    (lstep (lrun s evs) .handledNext).stack.length = (step (run (abs s) (evs.map toEv)) .handledNext).depth := by
  rw [← (lazy_refines_eager evs hp s hf).1]
  exact handled_refines_depth (lrun s evs)

/-- stale marks under a valid one are harmless and a stale mark is never taken for a valid one: GOSUB, RETURN (the mark stays
    behind), an unrelated push at the same index, GOSUB again, two partial results, an error - the stack is cut back to the
    second GOSUB's return address -/
example :
    (lstep (lrun { stack := [100], next := 101, base := 0, marks := [] }
      [.gosub, .instr 1 0, .instr 0 1, .instr 1 0, .gosub, .instr 0 2]) .handledNext).stack = [100, 103] := by
  decide +kernel

end Qbee.StmtDepth.Lazy
