import QbeeModel.Lemmas.Dbg
/-
  C12  Debugger stepping and breakpoints are transparent and stop correctly.  Property theorems only.
  The machine (`Mach σ`: tick, pc, halted, frame, callSize, stmt) is a parameter: every theorem holds for every program,
  every instruction semantics and every command history.  `fuel` bounds the model's loops only; a result `.fuel`
  stands for a command that is still running (the free run does not terminate either: see `session_transparent`).
  `NextPath` (the moves NEXT is made of) is defined in Lemmas/Dbg.lean.
-/
namespace Qbee.Dbg

variable {σ : Type}

/-- TRANSPARENCY: whatever commands are issued, the machine is only ever advanced along its own free run -
    instruction by instruction, never skipping or repeating one, never executing on a halted machine.  Device
    interactions and the final outcome are functions of that instruction sequence, so they are those of the free run. -/
theorem session_transparent (M : Mach σ) (fuel : Nat) (cmds : List Cmd) (d : DS σ) :
    Reach M d.s (cmds.foldl (exec M fuel) d).s := by
  induction cmds generalizing d with
  | nil => exact .refl M _
  | cons c cs ih => exact .trans (exec_reach M fuel d c) (ih _)

/-- start-up runs along the free run to the first statement (or to the end of an empty program) -/
theorem start_transparent (M : Mach σ) (n : Nat) (s : σ) : Reach M s (start M n s) := by
  -- the cases of `start`: no fuel; halted or in a statement; neither (one tick, the recursive one)
  fun_induction start M n s with
  | case1 s => exact .refl M s
  | case2 n s h => exact .refl M s
  | case3 n s h ih => exact .trans (.tick M s (left_false_of_or h)) ih

/-- breakpoints are changed by break / delbr only -/
theorem bps_unchanged_by_running (M : Mach σ) (fuel : Nat) (d : DS σ) (c : Cmd)
    (h : c = .step ∨ c = .next ∨ c = .stepi ∨ c = .nexti ∨ c = .cont) : (exec M fuel d c).bps = d.bps := by
  rcases h with rfl | rfl | rfl | rfl | rfl <;> rfl

/-- STEP returns in a different source statement (when it returns through its own stop condition) ... -/
theorem step_stops_in_other_statement (M : Mach σ) (bps : List Bp) (fuel : Nat) (s : σ)
    (h : (step M bps fuel s).2 = .temp) :
    ∃ x, M.stmt (M.pc (step M bps fuel s).1) = some x ∧ M.stmt (M.pc s) ≠ some x := by
  cases hs : M.halted s with
  | true => simp [step, hs] at h
  | false =>
    rw [step_eq_run bps fuel hs] at h ⊢
    exact (differentStmt_true M s _).1 (run_temp h).1

/-- ... makes progress, and - with no user breakpoint in the way - passes over no state in which control was in another
    statement: repeated stepping stops in every statement the program executes, in execution order.
    Otherwise the program has finished or a user breakpoint stopped it. -/
theorem step_exact (M : Mach σ) (bps : List Bp) (fuel : Nat) (s : σ) (hs : M.halted s = false) :
    ∃ k, (step M bps fuel s).1 = iter M k s ∧
      (∀ j, 0 < j → j < k → M.halted (iter M j s) = false ∧ differentStmt M s (iter M j s) = false ∧
                            firstHit bps (M.pc (iter M j s)) = none) ∧
      ((step M bps fuel s).2 = .temp → 1 ≤ k) ∧
      ((step M bps fuel s).2 = .finished →
          M.halted (step M bps fuel s).1 = true ∨ M.pc (step M bps fuel s).1 ≥ M.codeLen) := by
  rw [step_eq_run bps fuel hs]
  obtain ⟨k, hk, hall, hmid, hpos⟩ := run_iter M bps (differentStmt M s) fuel s
  exact ⟨k, hk, fun j h0 hj => ⟨hall j hj, (hmid j h0 hj).2, (hmid j h0 hj).1⟩, fun h => by simpa [h] using hpos,
    run_finished⟩

/-- NEXTI / NEXT over a call: when the call-skipping run ends through its own stop condition, control is at the
    instruction after the call IN THE CALLING FRAME - never inside the called procedure or a nested invocation of it -/
theorem nexti_call_returns_to_calling_frame (M : Mach σ) (bps : List Bp) (fuel : Nat) (s : σ) (sz : Nat)
    (hc : M.callSize s = some sz) (h : (nexti M bps fuel s).2 = .temp) :
    M.frame (nexti M bps fuel s).1 = M.frame s ∧ M.pc (nexti M bps fuel s).1 = M.pc s + sz :=
  nexti_call_temp hc (Prod.ext rfl h)

/-- NEXT returns in a different source statement, and gets there by whole-call moves only: it never stops inside a
    procedure called by the statement it started in (nor by any statement it passed) -/
theorem next_stops_in_other_statement (M : Mach σ) (bps : List Bp) (fuel : Nat) (s : σ)
    (h : (next M bps fuel s).2 = .temp) :
    NextPath M s (next M bps fuel s).1 ∧
    ∃ x, M.stmt (M.pc (next M bps fuel s).1) = some x ∧ M.stmt (M.pc s) ≠ some x := by
  have ⟨hp, hd⟩ := nextLoop_path h
  exact ⟨hp, (differentStmt_true M s _).1 hd⟩

/-- CONTINUE stops at the first state (after at least one instruction) at which a user breakpoint matches:
    each time, and only when, control reaches a breakpoint address -/
theorem continue_exact (M : Mach σ) (bps : List Bp) (fuel : Nat) (s : σ) (hs : M.halted s = false) :
    ∃ k, (cont M bps fuel s).1 = iter M k s ∧
      (∀ j, 0 < j → j < k → M.halted (iter M j s) = false ∧ firstHit bps (M.pc (iter M j s)) = none) ∧
      (∀ i, (cont M bps fuel s).2 = .user i →
          1 ≤ k ∧ firstHit bps (M.pc (cont M bps fuel s).1) = some i) ∧
      (cont M bps fuel s).2 ≠ .temp := by
  rw [cont_eq_run bps fuel hs]
  obtain ⟨k, hk, hall, hmid, hpos⟩ := run_iter M bps (fun _ => false) fuel s
  exact ⟨k, hk, fun j h0 hj => ⟨hall j hj, (hmid j h0 hj).1⟩, fun i h => ⟨by simpa [h] using hpos, (run_user h).1⟩,
    fun h => Bool.false_ne_true (run_temp h).1⟩

/-- firstHit reports a breakpoint of the list that matches the address, and none only when no breakpoint matches -/
theorem firstHit_some (bps : List Bp) (pc i : Nat) (h : firstHit bps pc = some i) :
    ∃ b, bps[i]? = some b ∧ b.hit pc = true := by
  obtain ⟨hi, hb, _⟩ := List.findIdx?_eq_some_iff_getElem.mp h
  exact ⟨bps[i], List.getElem?_eq_getElem hi, hb⟩

theorem firstHit_none (bps : List Bp) (pc : Nat) (h : firstHit bps pc = none) : ∀ b ∈ bps, b.hit pc = false := by
  intro b hb
  simpa using List.findIdx?_eq_none_iff.mp h b hb

/-- break / delbr keep the breakpoint list free of duplicates ... -/
theorem session_bps_nodup (M : Mach σ) (fuel : Nat) (cmds : List Cmd) (d : DS σ) (h : d.bps.Nodup) :
    (cmds.foldl (exec M fuel) d).bps.Nodup := by
  induction cmds generalizing d with
  | nil => exact h
  | cons c cs ih => exact ih _ (exec_nodup M fuel d c h)

/-- ... so a deleted breakpoint is gone: it is not in the list, and no later run reports it -/
theorem deleted_breakpoint_never_stops (M : Mach σ) (bps : List Bp) (b : Bp) (fuel : Nat) (s : σ) (i : Nat)
    (hnd : bps.Nodup) (h : (cont M (delBp bps b) fuel s).2 = .user i) :
    ∃ b', (delBp bps b)[i]? = some b' ∧ b' ≠ b ∧ b'.hit (M.pc (cont M (delBp bps b) fuel s).1) = true := by
  cases hs : M.halted s with
  | true => simp [cont, hs] at h
  | false =>
    rw [cont_eq_run _ fuel hs] at h ⊢
    obtain ⟨b', hb', hhit⟩ := firstHit_some _ _ _ (run_user h).1
    have hmem : b' ∈ delBp bps b := List.mem_of_getElem? hb'
    exact ⟨b', hb', fun heq => not_mem_delBp b hnd (heq ▸ hmem), hhit⟩

/-- `break <line>`: the breakpoint is placed on the first instruction of a statement that is at or after the line and
    has instructions, and no such statement comes earlier in the source -/
theorem resolveLine_spec (recs : List SRec) (line a : Nat) (h : resolveLine recs line = some (.exact a)) :
    ∃ r ∈ recs, r.s = a ∧ r.line ≥ line ∧ r.e > r.s ∧
      ∀ r' ∈ recs, r'.line ≥ line → r'.e > r'.s → r.srcOff ≤ r'.srcOff := by
  obtain ⟨r, hfind, hr⟩ := Option.map_eq_some_iff.1 h
  obtain ⟨hmem, hp, hleast⟩ := find?_mergeSort_least SRec.srcOff hfind
  simp only [Bool.and_eq_true, decide_eq_true_eq] at hp
  exact ⟨r, hmem, Bp.exact.inj hr, hp.1, hp.2, fun r' hr' hl he => hleast r' hr' (by simp [hl, he])⟩

/-- non-vacuity: a concrete machine (a counter that halts at 5, statements every two addresses) on which step stops
    in another statement and continue stops at a breakpoint -/
def demo : Mach Nat :=
  { tick := fun s => s + 1, pc := fun s => s, halted := fun s => decide (s ≥ 5), frame := fun _ => 0,
    callSize := fun _ => none, codeLen := 6, stmt := fun a => some (a / 2) }

example : step demo [] 10 0 = (2, .temp) := by decide +kernel
example : cont demo [.exact 3] 10 0 = (3, .user 0) := by decide +kernel
example : next demo [] 10 0 = (2, .temp) := by decide +kernel
example : cont demo (delBp [.exact 3] (.exact 3)) 10 0 = (5, .finished) := by decide +kernel

end Qbee.Dbg
