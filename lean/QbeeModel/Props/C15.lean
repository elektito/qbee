import QbeeModel.Lemmas.DataParse
import QbeeModel.Lemmas.DataCursor
import QbeeModel.Lemmas.DataGroups
/-
  C15  DATA items are read in source order and RESTORE repositions exactly.
  Property theorems only.  The statements' vocabulary beyond Model/Data.lean stands with the lemmas: `fieldItem` (the item an
  unquoted field denotes) and `render` (items written back as text) in Lemmas/DataParse.lean; `Good` (no part is empty) in
  Lemmas/DataCursor.lean; `labels` and `allItems` (of an event stream, in source order) in Lemmas/DataGroups.lean.
-/
namespace Qbee.Data
open Qbee.NumFmt

/-! ### the tokeniser, specified by the property's own sentences -/

/-- without quotes, DATA text is split at every comma; blank fields are Empty, the others are trimmed -/
theorem pd_no_quotes (s : Str) (h : '"' ∉ s) :
    parseData s = some ((splitCommas s).map fieldItem) := by
  simpa [parseData, splitCommas] using (pd_no_quotes_aux s h).1

/-- quoted items are kept verbatim (commas, colons and blanks inside quotes do not split or trim);
    every non-empty item list is recovered from its canonical rendering -/
theorem pd_roundtrip : ∀ (its : List DItem), its ≠ [] → (∀ s, .str s ∈ its → '"' ∉ s) →
    parseData (render its) = some its := by
  intro its hne hq
  -- the branches of `render`: [], [.empty], [.str s], .empty :: r, .str s :: r (the last two with r ≠ [])
  fun_induction render its with
  | case1 => exact absurd rfl hne
  | case2 => rfl
  | case3 s => simp [parseData, pd, isBT, pd_quo s (hq s (by simp)) [] []]
  | case4 r hr ih =>
    have ih := ih hr fun s hs => hq s (by simp [hs])
    rw [parseData] at ih
    simp [parseData, pd, isBT, ih]
  | case5 s r hr ih =>
    have ih := ih hr fun s hs => hq s (by simp [hs])
    rw [parseData] at ih
    simp [parseData, pd, isBT, pd_quo s (hq s (by simp)) [] (',' :: render r), ih]

/-- the tokeniser is total: every text gives a list of items or a syntax error, never anything else -/
theorem pd_total (s : Str) : parseData s = none ∨ ∃ its, parseData s = some its := by
  cases h : parseData s with
  | none => exact Or.inl rfl
  | some its => exact Or.inr ⟨its, rfl⟩

/-! ### source order -/

/-- with distinct labels, the data section lists the items of all DATA statements in source order
    (the grouping by label only inserts part boundaries) -/
theorem parts_in_source_order (evs : List Ev) (h : (labels evs).Nodup) :
    (parts evs).flatten = allItems evs := by
  simpa [parts, groupData_eq_sections h] using flatten_sections evs none none


/-! ### the READ cursor -/

/-- after positioning the cursor at the start of part `i`, successive READs deliver the items of
    parts i, i+1, … in order; in particular from the initial cursor (i = 0) READ delivers all
    items in the order of the data section -/
theorem readMany_from_part (data : List (List DItem)) (hg : Good data) (i : Nat) (_hi : i ≤ data.length) (k : Nat) :
    readMany data ⟨(i : Int), 0⟩ k = ((data.drop i).flatten).take k := by
  simpa using readMany_from data hg k i 0 fun h => List.length_pos_iff.mpr (hg _ (List.getElem_mem h))

theorem read_sequence (data : List (List DItem)) (hg : Good data) (k : Nat) :
    readMany data ⟨0, 0⟩ k = data.flatten.take k := by
  simpa using readMany_from_part data hg 0 (by omega) k

/-- reading past the last item fails ("Out of data") -/
theorem read_past_end (data : List (List DItem)) (hg : Good data) :
    readMany data ⟨0, 0⟩ (data.flatten.length + 1) = data.flatten := by
  rw [read_sequence data hg]
  exact List.take_of_length_le (by omega)


/-- RESTORE to part i (the index the compiler pushes for a label) -/
theorem restore_to_part (data : List (List DItem)) (hg : Good data) (i : Nat) (hi : i ≤ data.length) (k : Nat) :
    readMany data (restore (i : Int)) k = ((data.drop i).flatten).take k :=
  readMany_from_part data hg i hi k

/-- RESTORE with a label, at full strength: wherever the label stands - followed by a DATA statement, by other labels first,
    or by no DATA at all - the index the compiler pushes (as repaired) is a part index from which the data section lists
    exactly the items of the DATA statements after the label, in source order -/
theorem restore_label_general : ∀ (post pre : List Ev) (l : String),
    (labels (pre ++ .label l :: post)).Nodup →
    labelTarget (groupData (pre ++ .label l :: post)) (labelOrder (pre ++ .label l :: post)) l
        ≤ (parts (pre ++ .label l :: post)).length ∧
    ((parts (pre ++ .label l :: post)).drop
        (labelTarget (groupData (pre ++ .label l :: post)) (labelOrder (pre ++ .label l :: post)) l)).flatten
      = allItems post := by
  intro post pre l hnd
  obtain ⟨hg, ht⟩ := labelTarget_split hnd
  rw [ht, parts, hg, List.map_append]
  refine ⟨by simp, ?_⟩
  rw [List.drop_left' (List.length_map _), flatten_sections]
  rfl

/-- RESTORE with a label: if label `l` is followed by a DATA statement before the next label, the
    index the compiler pushes is the part that starts with that DATA statement's items, and from there
    the data section lists everything from that statement on, in source order -/
theorem restore_label_target (pre post : List Ev) (l : String) (its : List DItem)
    (hnd : (labels (pre ++ .label l :: .data its :: post)).Nodup) :
    ∃ i, labelIndex (groupData (pre ++ .label l :: .data its :: post)) l = some i ∧
      i ≤ (parts (pre ++ .label l :: .data its :: post)).length ∧
      ((parts (pre ++ .label l :: .data its :: post)).drop i).flatten = its ++ allItems post := by
  -- the label has a group of its own, so `labelTarget` is its index
  obtain ⟨i, hi⟩ : ∃ i, labelIndex (groupData (pre ++ .label l :: .data its :: post)) l = some i := by
    obtain ⟨its', r, hs⟩ := sections_some post (some l) its
    refine Option.ne_none_iff_exists'.mp fun hn => labelIndex_eq_none_iff.mp hn ?_
    simp [(labelTarget_split hnd).1, sections, hs]
  have := restore_label_general (.data its :: post) pre l hnd
  rw [labelTarget, hi] at this
  exact ⟨i, hi, this⟩

/-- before the repair the compiler had no index for a label without a group of its own (`list.index` raised ValueError) -/
theorem restore_label_without_group_had_no_index :
    labelIndex (groupData [.label "foo", .label "bar", .data [.str ['1']]]) "foo" = none ∧
    labelTarget (groupData [.label "foo", .label "bar", .data [.str ['1']]])
      (labelOrder [.label "foo", .label "bar", .data [.str ['1']]]) "foo" = 0 := by decide

/-! ### RESTORE without a label

`gen_restore_stmt` pushes 0 for a RESTORE without label (as repaired: it pushed -1, which `_exec_restore` stored in
`data_part`, and Python's negative list index then selected the LAST group). -/

/-- RESTORE without a label rewinds to the first item of the whole data section -/
def RestorePlainRewinds : Prop :=
  ∀ data : List (List DItem), Good data → ∀ k, readMany data (restore 0) k = data.flatten.take k

theorem restore_plain_rewinds : RestorePlainRewinds := by
  intro data hg k
  have := restore_to_part data hg 0 (Nat.zero_le _) k
  simpa using this

/-- the defect that was repaired, kept as a witness: with part index -1 the cursor starts at the last group -/
theorem restore_minus_one_was_wrong :
    readMany [[.str ['1']], [.str ['2']]] (restore (-1)) 1 ≠ ([[.str ['1']], [.str ['2']]] : List (List DItem)).flatten.take 1 := by
  decide

-- non-vacuity
example : parseData "a, \"b,c\" ,,d ".toList =
    some [.str ['a'], .str "b,c".toList, .empty, .str ['d']] := by decide +kernel
example : Good [[.str ['1'], .empty], [.str ['2']]] := by
  intro p hp; simp at hp; rcases hp with rfl | rfl <;> simp
example : (labels [.label "a", .data [.empty], .label "b", .data [.empty]]).Nodup := by decide

end Qbee.Data
